import StatimeModel.Lemmas.BmcaRun
/-
Which master a Slave port is bound to (`SlaveState::remote_master`) and which parent the data sets name: both are the
sender of the one Announce every S1 decision of a BMCA run carries (`theAnn`). Here for one application of a decision
(`setRecommendedState_bind`), for the data sets along the rest of the run (`Thread.parentIs`) and for a port after its
visit (`Visited.bound`); the statement about a whole run is `C05.bmca_binds_slaves_to_the_parent`.
-/
namespace Statime

/-- the master a Slave port listens to (`SlaveState::remote_master`; the `RM` part of the state line) -/
def boundTo (p : Port) : Option PortId :=
  match p.st with
  | .slave r _ _ _ => some r
  | _ => none

theorem boundTo_congr {p q : Port} (h : q.st = p.st) : boundTo q = boundTo p := by
  unfold boundTo; rw [h]

theorem boundTo_some_isSlave {p : Port} {r : PortId} (h : boundTo p = some r) : p.st.isSlave = true := by
  unfold boundTo at h
  split at h
  · next hst => rw [hst]; rfl
  · cases h

theorem applyParentS1_parent {s s1 : InstState} {a : Ann} (h : s.applyParentS1 a = .ok s1) :
    s1.parent.parentPort = a.hdr.src := by
  rw [(applyParentS1_ok h).2]
  rfl

/-- **Decision S1 applied to a port** (any port that is not disabled by a peer-delay fault, whatever it was doing
before): afterwards the port is Slave of the sender of the selected Announce — also when it was already Slave of
another port of the same clock — and that sender is the parent the data sets name. -/
theorem setRecommendedState_s1_binds (p p' : Port) (a : Ann) (s s' : InstState) (ev : List Out) (pend : Option (List Out))
    (hf : p.st ≠ .faulty)
    (h : p.setRecommendedState (.s1 a) s = .ok (p', s', ev, pend)) :
    boundTo p' = some a.hdr.src ∧ s'.parent.parentPort = a.hdr.src := by
  obtain ⟨ev1, t, hv, _, hw⟩ := setRecommendedState_cases h
  refine ⟨?_, ?_⟩
  · cases (setRecommendedPortState_cases hv).2 with
    | stays hst =>
      obtain ⟨_, _, _, e⟩ := PState.isAt_slave.1 (hst.resolve_left hf)
      unfold boundTo
      rw [e]
    | moves => rfl
  · cases hw with
    | s1 hap => exact applyParentS1_parent hap

/-- the Announce every S1 decision of one run carries: the run's Ebest, when the own clock is not better (and may
be a slave at all) -/
def theAnn (dflt : DefaultDS) (ebest : Option Best) : Option Ann :=
  if 1 ≤ dflt.quality.clockClass ∧ dflt.quality.clockClass ≤ 127 then none
  else
    match compareD0Best (CmpDS.ofOwn dflt) ebest with
    | .worse g => some g.ann
    | _ => none

theorem recommend_s1 {dflt : DefaultDS} {ebest er : Option Best} {l : Bool} {a : Ann}
    (h : recommend dflt ebest er l = some (.s1 a)) : theAnn dflt ebest = some a := by
  cases recommend_cases h with
  | s1 high worse =>
    unfold theAnn
    rw [if_neg high, worse]

/-- M1 and M2, which overwrite the parent with the own clock, are decided only where `theAnn` is `none`. Every
decision of one run is taken against the same `dflt` and `ebest`, so a run that decides S1 for some port decides
M1 or M2 for none, and the parent S1 wrote stays. -/
theorem recommend_m1 {dflt d : DefaultDS} {ebest er : Option Best} {l : Bool}
    (h : recommend dflt ebest er l = some (.m1 d)) : theAnn dflt ebest = none := by
  cases recommend_cases h with
  | m1 low => exact if_pos low

theorem recommend_m2 {dflt d : DefaultDS} {ebest er : Option Best} {l : Bool}
    (h : recommend dflt ebest er l = some (.m2 d)) : theAnn dflt ebest = none := by
  cases recommend_cases h with
  | m2 high best =>
    unfold theAnn
    rw [if_neg high]
    split
    · next g hc => exact absurd hc (best g)
    · rfl

/-- the parent the data sets name is the sender of the run's S1 Announce -/
def ParentIs (dflt : DefaultDS) (ebest : Option Best) (s : InstState) : Prop :=
  (theAnn dflt ebest).map (·.hdr.src) = some s.parent.parentPort

/-- one application of a recommended state: once the parent is the S1 sender it stays so; a port that is Slave
afterwards is bound to the parent, which is then the S1 sender -/
theorem setRecommendedState_bind {dflt : DefaultDS} {ebest er : Option Best} {l : Bool} {r : Recommended}
    {p p1 : Port} {s s1 : InstState} {e : List Out} {pd : Option (List Out)}
    (hr : recommend dflt ebest er l = some r)
    (h : p.setRecommendedState r s = .ok (p1, s1, e, pd)) :
    (ParentIs dflt ebest s → ParentIs dflt ebest s1) ∧
    (∀ m, boundTo p1 = some m → ParentIs dflt ebest s1 ∧ m = s1.parent.parentPort) := by
  have dd := setRecommendedState_decided h
  have notS1 : r.isS1 = false → ∀ m, boundTo p1 = some m → False := fun hns m hb => by
    obtain ⟨a, rfl⟩ := dd.slave (boundTo_some_isSlave hb)
    cases hns
  obtain ⟨_, hw⟩ := setRecommendedState_writes h
  cases hw with
  | @s1 a _ hap =>
    have hpar : ParentIs dflt ebest s1 := by
      unfold ParentIs
      rw [recommend_s1 hr, applyParentS1_parent hap]
      rfl
    refine ⟨fun _ => hpar, fun m hb => ⟨hpar, ?_⟩⟩
    have hnf : p.st ≠ .faulty := by
      intro hf
      have hs := boundTo_some_isSlave hb
      rw [dd.faulty hf] at hs
      cases hs
    rw [(setRecommendedState_s1_binds p p1 a s s1 e pd hnf h).1] at hb
    exact (Option.some.inj hb).symm.trans (applyParentS1_parent hap).symm
  | m3 | p1 | p2 => exact ⟨id, fun m hb => (notS1 rfl m hb).elim⟩
  | m1 =>
    refine ⟨fun hp => ?_, fun m hb => (notS1 rfl m hb).elim⟩
    rw [ParentIs, recommend_m1 hr] at hp
    cases hp
  | m2 =>
    refine ⟨fun hp => ?_, fun m hb => (notS1 rfl m hb).elim⟩
    rw [ParentIs, recommend_m2 hr] at hp
    cases hp

theorem Thread.parentIs {dflt : DefaultDS} {ebest : Option Best} {a b : InstState} (h : Thread ebest a b)
    (hd : a.dflt = dflt) (hp : ParentIs dflt ebest a) : ParentIs dflt ebest b :=
  (Thread.inv (fun t => t.dflt = dflt ∧ ParentIs dflt ebest t)
    (fun hr hs hj =>
      ⟨(setRecommendedState_dflt hs).trans hj.1, (setRecommendedState_bind (hj.1 ▸ hr) hs).1 hj.2⟩) h ⟨hd, hp⟩).2

/-- a port that its visit leaves Slave is bound to the parent the data sets name when the run ends: the call that made
it Slave wrote that parent, and the rest of the run keeps it -/
theorem Visited.bound {ebest : Option Best} {lbs : List (Nat × Option Best)} {dflt : DefaultDS} {s' : InstState}
    {j : Nat} {p p' : Port} {was now : Option (List Out)} (h : Visited ebest lbs dflt s' j p p' was now) {r : PortId}
    (hr : boundTo p' = some r) : r = s'.parent.parentPort := by
  cases h with
  | quiet undecided role _ =>
    have hs := boundTo_some_isSlave hr
    rw [role.quiet undecided] at hs
    cases hs
  | call decision sameDflt _ applied after rest _ =>
    rw [boundTo_congr after.st] at hr
    obtain ⟨hpar, e⟩ := (setRecommendedState_bind decision applied).2 r hr
    have hpar' := rest.parentIs ((setRecommendedState_dflt applied).trans sameDflt) hpar
    exact e.trans (Option.some.inj (hpar.symm.trans hpar'))

end Statime
