import StatimeModel.Lemmas.Decision
import StatimeModel.Lemmas.Fml
import StatimeModel.Lemmas.Step
/-
A BMCA run of an instance (`PtpInstanceState::bmca`), loop by loop: phase 1 (`bmcaTakeBest`) and phase 3 (`bmcaAge`)
keep every port's role (`SameRoles`); phase 2 (`bmcaApply`) gives every port of the order one decision, applied by at
most one `setRecommendedState` call when the order names the port once (`Visited`, `bmcaApply_each`). `Ran` is the whole
run, port by port (`bmca_ran`); `bmcaWith_fails` says where it can fail.
-/
namespace Statime

/-- everything about a port that the BMCA bookkeeping loops leave alone -/
structure SameRole (p p' : Port) : Prop extends Fixed p p' where
  st : p'.st = p.st

theorem SameRole.refl (p : Port) : SameRole p p := ⟨Fixed.refl p, rfl⟩

theorem SameRole.trans {a b c : Port} (h1 : SameRole a b) (h2 : SameRole b c) : SameRole a c :=
  ⟨h1.toFixed.trans h2.toFixed, h2.st.trans h1.st⟩

def SameRoles (ports ports' : List Port) : Prop :=
  ports'.length = ports.length ∧ ∀ (j : Nat) (p p' : Port), ports[j]? = some p → ports'[j]? = some p' → SameRole p p'

theorem SameRoles.refl (ports : List Port) : SameRoles ports ports :=
  ⟨rfl, fun _ p _ h h' => Option.some.inj (h.symm.trans h') ▸ SameRole.refl p⟩

theorem SameRoles.trans {a b c : List Port} (h1 : SameRoles a b) (h2 : SameRoles b c) : SameRoles a c :=
  ⟨h2.1.trans h1.1, fun j p p2 hp hp2 =>
    let ⟨p1, hp1⟩ := getElem?_same_length h1.1 hp
    (h1.2 j p p1 hp hp1).trans (h2.2 j p1 p2 hp1 hp2)⟩

theorem setPort_sameRoles {ports : List Port} {k : Nat} {p p' : Port} (hk : portAt ports k = some p) (h : SameRole p p') :
    SameRoles ports (setPort ports k p') := by
  refine ⟨setPort_length _ _ _, fun j q q' hq hq' => ?_⟩
  rcases setPort_cases hk p' j with ⟨_, h0, hg⟩ | ⟨_, hg⟩ <;> rw [hg] at hq'
  · cases h0.symm.trans hq
    cases hq'
    exact h
  · cases hq.symm.trans hq'
    exact .refl q

/-- phase 1: only the foreign master lists change; every recorded Erbest belongs to the port it is recorded for -/
theorem bmcaTakeBest_spec : ∀ (order : List Nat) (ports : List Port) (acc : List (Nat × Option Best)),
    SameRoles ports (bmcaTakeBest order ports acc).1 ∧
    (∀ (k : Nat) (ob : Option Best), (k, ob) ∈ (bmcaTakeBest order ports acc).2 → (k, ob) ∈ acc ∨
      ∃ p, portAt ports k = some p ∧ ∀ b, ob = some b → b.identity = p.fml.own) := by
  intro order
  induction order with
  | nil =>
    intro ports acc
    exact ⟨.refl ports, fun k ob h => Or.inl h⟩
  | cons k rest ih =>
    intro ports acc
    unfold bmcaTakeBest
    split
    · exact ih ports acc
    · next p hk =>
      obtain ⟨i1, i3⟩ := ih (setPort ports k { p with fml := (takeBest p.fml p.cfg.acceptable).1 })
        (acc ++ [(k, (takeBest p.fml p.cfg.acceptable).2)])
      refine ⟨(setPort_sameRoles hk (show SameRole p { p with fml := (takeBest p.fml p.cfg.acceptable).1 } from
        ⟨⟨rfl, rfl, (takeBest_params _ _).own, rfl, rfl, rfl⟩, rfl⟩)).trans i1, ?_⟩
      intro k' ob hmem
      rcases i3 k' ob hmem with h | ⟨q, hq, hb⟩
      · rcases List.mem_append.1 h with h1 | h1
        · exact Or.inl h1
        · cases List.mem_singleton.1 h1
          exact Or.inr ⟨p, hk, fun b hb => (takeBest_spec p.fml p.cfg.acceptable b hb).1⟩
      · right
        rw [portAt_setPort hk] at hq
        by_cases hj : k' = k
        · subst hj
          rw [if_pos rfl] at hq; cases hq
          exact ⟨p, hk, fun b hb' => by rw [hb b hb']; exact (takeBest_params _ _).own⟩
        · rw [if_neg hj] at hq
          exact ⟨q, hq, hb⟩

theorem lookup_mem {α : Type} {l : List (Nat × α)} {k : Nat} {v : α} (h : l.lookup k = some v) : (k, v) ∈ l := by
  obtain ⟨l₁, l₂, rfl, _⟩ := List.lookup_eq_some_iff.1 h
  exact List.mem_append_right _ List.mem_cons_self

/-- the `pend` of `bmcaApply` after a call for port `k` that returned `pd` -/
def pendPut (pend : List (Nat × List Out)) (k : Nat) (pd : Option (List Out)) : List (Nat × List Out) :=
  match pd with
  | some a => (pend.filter (fun x => x.1 ≠ k)) ++ [(k, a)]
  | none => pend

theorem pendPut_lookup_self (pend : List (Nat × List Out)) (k : Nat) (pd : Option (List Out)) :
    (pendPut pend k pd).lookup k = pd.or (pend.lookup k) := by
  cases pd with
  | none => rfl
  | some a =>
    have hn : (pend.filter fun x => x.1 ≠ k).lookup k = none :=
      List.lookup_eq_none_iff.2 fun x hx => bne_iff_ne.2 fun e => of_decide_eq_true (List.mem_filter.1 hx).2 e.symm
    show (pend.filter (fun x => x.1 ≠ k) ++ [(k, a)]).lookup k = some a
    rw [List.lookup_append, hn, Option.none_or, List.lookup_cons_self]

theorem lookup_filter_ne {α : Type} (l : List (Nat × α)) {k x : Nat} (hx : x ≠ k) :
    (l.filter fun y => y.1 ≠ k).lookup x = l.lookup x := by
  induction l with
  | nil => rfl
  | cons y ys ih =>
    obtain ⟨y1, y2⟩ := y
    by_cases hy : y1 = k
    · rw [List.filter_cons_of_neg (by simpa using hy), ih, List.lookup_cons, beq_false_of_ne (hy ▸ hx)]
    · rw [List.filter_cons_of_pos (by simpa using hy), List.lookup_cons, List.lookup_cons, ih]

theorem pendPut_lookup_other (pend : List (Nat × List Out)) (k x : Nat) (pd : Option (List Out)) (hx : x ≠ k) :
    (pendPut pend k pd).lookup x = pend.lookup x := by
  cases pd with
  | none => rfl
  | some a =>
    have hn : [(k, a)].lookup x = none :=
      List.lookup_eq_none_iff.2 fun y hy => bne_iff_ne.2 (List.mem_singleton.1 hy ▸ hx)
    show (pend.filter (fun y => y.1 ≠ k) ++ [(k, a)]).lookup x = pend.lookup x
    rw [List.lookup_append, lookup_filter_ne pend hx, hn, Option.or_none]

theorem pendPut_mem (pend : List (Nat × List Out)) (k : Nat) (pd : Option (List Out)) (x : Nat × List Out)
    (h : x ∈ pendPut pend k pd) : x ∈ pend ∨ pd = some x.2 := by
  cases pd with
  | none => exact Or.inl h
  | some a =>
    rcases List.mem_append.1 h with h1 | h1
    · exact Or.inl (List.mem_filter.1 h1).1
    · rw [List.mem_singleton.1 h1]; exact Or.inr rfl

/-- `Thread ebest a b`: the data sets `b` are reached from `a` by `setRecommendedState` calls, each with a decision
`recommend` gives for the run's `ebest` (head first, so that no transitivity is needed) -/
inductive Thread (ebest : Option Best) : InstState → InstState → Prop
  | refl (s : InstState) : Thread ebest s s
  | head {s s1 b : InstState} {p p1 : Port} {r : Recommended} {e : List Out} {pd : Option (List Out)}
      {er : Option Best} {l : Bool} :
      recommend s.dflt ebest er l = some r → p.setRecommendedState r s = .ok (p1, s1, e, pd) →
      Thread ebest s1 b → Thread ebest s b

theorem Thread.inv {ebest : Option Best} (J : InstState → Prop)
    (hJ : ∀ {s s1 : InstState} {p p1 : Port} {r : Recommended} {e : List Out} {pd : Option (List Out)}
      {er : Option Best} {l : Bool}, recommend s.dflt ebest er l = some r →
      p.setRecommendedState r s = .ok (p1, s1, e, pd) → J s → J s1)
    {a b : InstState} (h : Thread ebest a b) : J a → J b := by
  induction h with
  | refl => exact id
  | head hr hs _ ih => exact fun ha => ih (hJ hr hs ha)

theorem Thread.dflt {ebest : Option Best} {a b : InstState} (h : Thread ebest a b) : b.dflt = a.dflt :=
  Thread.inv (fun t => t.dflt = a.dflt) (fun _ hs hj => (setRecommendedState_dflt hs).trans hj) h rfl

/-- what phase 2 does to port `j + 1` of an `order` that names it once, the bookkeeping of the other phases before and
after included: the port has no decision (`quiet`: it is Listening and keeps its role), or its decision was applied by
one `call`, on data sets `sk` of the run, which then went on from `sk'` to `s'`. `was` and `now` are the port's pending
actions before and after. -/
inductive Visited (ebest : Option Best) (lbs : List (Nat × Option Best)) (dflt : DefaultDS) (s' : InstState) (j : Nat)
    (p p' : Port) (was now : Option (List Out)) : Prop
  | quiet (undecided : recommend dflt ebest ((lbs.lookup (j + 1)).getD none) (decide (p.st = .listening)) = none)
      (role : SameRole p p') (pending : now = was)
  | call {r : Recommended} {sk sk' : InstState} {p1 p2 : Port} {e : List Out} {pd : Option (List Out)}
      (decision : recommend dflt ebest ((lbs.lookup (j + 1)).getD none) (decide (p.st = .listening)) = some r)
      (sameDflt : sk.dflt = dflt) (before : SameRole p p1) (applied : p1.setRecommendedState r sk = .ok (p2, sk', e, pd))
      (after : SameRole p2 p') (rest : Thread ebest sk' s') (pending : now = pd.or was)

section
variable {ebest : Option Best} {lbs : List (Nat × Option Best)} {dflt : DefaultDS} {s' : InstState} {j : Nat}
  {p p' : Port} {was now : Option (List Out)}

theorem Visited.wrap {p0 p3 : Port} (h0 : SameRole p0 p) (h : Visited ebest lbs dflt s' j p p' was now)
    (h3 : SameRole p' p3) : Visited ebest lbs dflt s' j p0 p3 was now := by
  cases h with
  | quiet undecided role pending => exact .quiet (h0.st ▸ undecided) ((h0.trans role).trans h3) pending
  | call decision sameDflt before applied after rest pending =>
    exact .call (h0.st ▸ decision) sameDflt (h0.trans before) applied (after.trans h3) rest pending

theorem SameRole.quiet (sr : SameRole p p')
    (hrec : recommend dflt ebest ((lbs.lookup (j + 1)).getD none) (decide (p.st = .listening)) = none) :
    p'.st = .listening :=
  sr.st.trans (of_decide_eq_true (recommend_eq_none hrec).2)

theorem Visited.fresh (h : Visited ebest lbs dflt s' j p p' was now) : FreshOrSame p.st p'.st := by
  cases h with
  | quiet _ role _ => exact .inl role.st
  | call _ _ before applied after _ _ =>
    rw [← before.st, after.st]
    exact (setRecommendedState_decided applied).fresh

theorem Visited.slave (h : Visited ebest lbs dflt s' j p p' was now) (hs : p'.st.isSlave = true) :
    ∃ a, recommend dflt ebest ((lbs.lookup (j + 1)).getD none) (decide (p.st = .listening)) = some (.s1 a) ∧
      p.cfg.masterOnly = false := by
  cases h with
  | quiet undecided role _ =>
    rw [role.quiet undecided] at hs
    cases hs
  | call decision _ before applied after _ _ =>
    have dd := setRecommendedState_decided applied
    obtain ⟨a, rfl⟩ := dd.slave (after.st ▸ hs)
    exact ⟨a, decision, before.cfg ▸ dd.notMasterOnly rfl⟩

theorem Visited.not_master (h : Visited ebest lbs dflt s' j p p' was now) (hso : dflt.slaveOnly = true) :
    p'.st ≠ .master := by
  cases h with
  | quiet undecided role _ =>
    rw [role.quiet undecided]
    exact fun h => nomatch h
  | call _ sameDflt _ applied after _ _ =>
    rw [after.st]
    exact (setRecommendedState_decided applied).notMaster (sameDflt ▸ hso)

end

/-- what one run of phase 2 over `order` does; only `port` asks that `order` names no port twice -/
structure Each (ebest : Option Best) (lbs : List (Nat × Option Best)) (order : List Nat)
    (ports : List Port) (s : InstState) (ev : Obs) (pend : List (Nat × List Out))
    (ports' : List Port) (s' : InstState) (ev' : Obs) (pend' : List (Nat × List Out)) : Prop where
  thread : Thread ebest s s'
  length : ports'.length = ports.length
  events : ∀ x ∈ ev', x ∈ ev ∨ x.2.plain
  pending : ∀ x ∈ pend', x ∈ pend ∨ ∀ o ∈ x.2, o.plain
  outside : ∀ x, x ∉ order → pend'.lookup x = pend.lookup x
  fixed : ∀ {j : Nat} {p p' : Port}, ports[j]? = some p → ports'[j]? = some p' → Fixed p p'
  port : ∀ {j : Nat} {p p' : Port}, ports[j]? = some p → ports'[j]? = some p' →
    (j + 1 ∉ order → p' = p) ∧
    (order.Nodup → j + 1 ∈ order → Visited ebest lbs s.dflt s' j p p' (pend.lookup (j + 1)) (pend'.lookup (j + 1)))

/-- from the rest of the order to the whole, for a port other than the head -/
theorem each_other {k : Nat} {rest : List Nat} {n : Nat} {A B : Prop} (hn : n ≠ k)
    (h : (n ∉ rest → A) ∧ (rest.Nodup → n ∈ rest → B)) : (n ∉ k :: rest → A) ∧ ((k :: rest).Nodup → n ∈ k :: rest → B) :=
  ⟨fun hm => h.1 (fun hh => hm (List.mem_cons_of_mem _ hh)),
   fun hnd hm => h.2 (List.nodup_cons.1 hnd).2 ((List.mem_cons.1 hm).resolve_left hn)⟩

/-- one step of phase 2: port `k` is passed over (no such port, or no decision for it), or takes one call -/
theorem bmcaApply_cons {ebest : Option Best} {lbs : List (Nat × Option Best)} {k : Nat} {rest : List Nat}
    {ports : List Port} {s : InstState} {ev : Obs} {pend : List (Nat × List Out)}
    {out : List Port × InstState × Obs × List (Nat × List Out)}
    (h : bmcaApply ebest lbs (k :: rest) ports s ev pend = .ok out) :
    (bmcaApply ebest lbs rest ports s ev pend = .ok out ∧
      ∀ p0, portAt ports k = some p0 →
        recommend s.dflt ebest ((lbs.lookup k).getD none) (decide (p0.st = .listening)) = none) ∨
    ∃ p0 r p1 s1 e1 pd1, portAt ports k = some p0 ∧
      recommend s.dflt ebest ((lbs.lookup k).getD none) (decide (p0.st = .listening)) = some r ∧
      p0.setRecommendedState r s = .ok (p1, s1, e1, pd1) ∧
      bmcaApply ebest lbs rest (setPort ports k p1) s1 (ev ++ tag k e1) (pendPut pend k pd1) = .ok out := by
  unfold bmcaApply at h
  split at h
  · next hk => exact .inl ⟨h, fun _ h0 => nomatch hk.symm.trans h0⟩
  · next p0 hk =>
    dsimp only at h
    split at h
    · next hrec => exact .inl ⟨h, fun _ h0 => Option.some.inj (hk.symm.trans h0) ▸ hrec⟩
    · next r hrec =>
      obtain ⟨⟨p1, s1, e1, pd1⟩, hset, h⟩ := bindR_ok _ _ _ h
      exact .inr ⟨p0, r, p1, s1, e1, pd1, hk, hrec, hset, h⟩

theorem bmcaApply_each {ebest : Option Best} {lbs : List (Nat × Option Best)} :
    ∀ {order : List Nat} {ports : List Port} {s : InstState} {ev : Obs} {pend : List (Nat × List Out)}
      {ports' : List Port} {s' : InstState} {ev' : Obs} {pend' : List (Nat × List Out)},
      bmcaApply ebest lbs order ports s ev pend = .ok (ports', s', ev', pend') →
      Each ebest lbs order ports s ev pend ports' s' ev' pend' := by
  intro order
  induction order with
  | nil =>
    intro ports s ev pend ports' s' ev' pend' h
    simp only [bmcaApply, Except.ok.injEq, Prod.mk.injEq] at h
    obtain ⟨rfl, rfl, rfl, rfl⟩ := h
    exact ⟨.refl _, rfl, fun _ h => Or.inl h, fun _ h => Or.inl h, fun _ _ => rfl,
      fun {_ p _} hp hp' => Option.some.inj (hp.symm.trans hp') ▸ Fixed.refl p,
      fun hp hp' => ⟨fun _ => Option.some.inj (hp'.symm.trans hp), fun _ h => absurd h List.not_mem_nil⟩⟩
  | cons k rest ih =>
    intro ports s ev pend ports' s' ev' pend' h
    rcases bmcaApply_cons h with ⟨h, hrec⟩ | ⟨p0, r, p1, s1, e1, pd1, hk, hrec, hset, h⟩
    · -- nothing applied: only the port `k` itself, if there is one, needs a word
      have e := ih h
      refine ⟨e.thread, e.length, e.events, e.pending,
        fun x hx => e.outside x (fun hh => hx (List.mem_cons_of_mem _ hh)), e.fixed, ?_⟩
      intro j p p' hp hp'
      have y := e.port hp hp'
      by_cases hjk : j + 1 = k
      · subst hjk
        refine ⟨fun hm => absurd List.mem_cons_self hm, fun hnd _ => ?_⟩
        have hk_notin := (List.nodup_cons.1 hnd).1
        cases y.1 hk_notin
        exact .quiet (hrec p (by rw [portAt_succ]; exact hp)) (.refl p) (e.outside _ hk_notin)
      · exact each_other hjk y
    · -- one call on port `k`, then the rest of the order on its results: what the call adds to events and pending
      -- actions is plain; the rest does not name `k` again, so it leaves the port and what is pending for it as the
      -- call made them
      have e := ih h
      have dd := setRecommendedState_decided hset
      refine ⟨.head hrec hset e.thread, e.length.trans (setPort_length ports k p1), ?_, ?_, ?_, ?_, ?_⟩
      · intro x hx
        rcases e.events x hx with h1 | h1
        · rcases List.mem_append.1 h1 with h2 | h2
          · exact Or.inl h2
          · exact Or.inr (dd.events x.2 (mem_tag.1 h2).2)
        · exact Or.inr h1
      · intro x hx
        rcases e.pending x hx with h1 | h1
        · rcases pendPut_mem pend k pd1 x h1 with h2 | h2
          · exact Or.inl h2
          · exact Or.inr (dd.pending _ h2)
        · exact Or.inr h1
      · intro x hx
        rw [e.outside x (fun hh => hx (List.mem_cons_of_mem _ hh))]
        exact pendPut_lookup_other pend k x pd1 (fun e => hx (e ▸ List.mem_cons_self))
      · intro j p p' hp hp'
        rcases setPort_cases hk p1 j with ⟨_, h0, hg⟩ | ⟨_, hg⟩
        · cases h0.symm.trans hp
          exact dd.toFixed.trans (e.fixed hg hp')
        · exact e.fixed (hg.trans hp) hp'
      · intro j p p' hp hp'
        rcases setPort_cases hk p1 j with ⟨hjk, h0, hg⟩ | ⟨hjk, hg⟩
        · subst hjk
          cases h0.symm.trans hp
          refine ⟨fun hm => absurd List.mem_cons_self hm, fun hnd _ => ?_⟩
          have hk_notin := (List.nodup_cons.1 hnd).1
          cases (e.port hg hp').1 hk_notin
          refine .call hrec rfl (.refl _) hset (.refl _) e.thread ?_
          rw [e.outside _ hk_notin]
          exact pendPut_lookup_self pend _ pd1
        · have y := e.port (hg.trans hp) hp'
          refine each_other hjk ⟨y.1, fun hnd hm => ?_⟩
          have t := y.2 hnd hm
          rw [setRecommendedState_dflt hset, pendPut_lookup_other pend k (j + 1) pd1 hjk] at t
          exact t

theorem stepAnnounceAge_sameRole (p p1 : Port) (step : Int) (h : p.stepAnnounceAge step = .ok p1) : SameRole p p1 := by
  unfold Port.stepAnnounceAge at h
  split at h
  · cases h
  · simp only [Except.ok.injEq] at h
    rw [← h]
    exact ⟨⟨rfl, rfl, (stepAge_params _ _).own, rfl, rfl, rfl⟩, rfl⟩

theorem bmcaAge_spec {step : Int} : ∀ {order : List Nat} {ports ports' : List Port},
    bmcaAge step order ports = .ok ports' → SameRoles ports ports' := by
  intro order
  induction order with
  | nil =>
    intro ports ports' h
    cases h
    exact .refl ports
  | cons k rest ih =>
    intro ports ports' h
    unfold bmcaAge at h
    split at h
    · exact ih h
    · next p0 hk =>
      obtain ⟨p1, hs, h⟩ := bindR_ok _ _ _ h
      exact (setPort_sameRoles hk (stepAnnounceAge_sameRole p0 p1 step hs)).trans (ih h)

/-- the Ebest of a run over `order`: the best of what its ports offer for the BMCA once phase 1 has taken every Erbest -/
def Inst.ebest (i : Inst) (order : List Nat) : Option Best :=
  findBest (order.filterMap fun k =>
    match portAt (bmcaTakeBest order i.ports []).1 k with
    | some p => bestForBmca p (((bmcaTakeBest order i.ports []).2.lookup k).getD none)
    | none => none)

/-- a run that returns went through phase 2, on the ports and Erbests phase 1 leaves, and phase 3 -/
theorem bmcaWith_ok {i i' : Inst} {order : List Nat} {step : Int} {obs : Obs}
    (h : i.bmcaWith order step = .ok (i', obs)) :
    ∃ ports2 s2 ev2 pend2 ports3,
      bmcaApply (i.ebest order) (bmcaTakeBest order i.ports []).2 order (bmcaTakeBest order i.ports []).1 i.st [] [] =
        .ok (ports2, s2, ev2, pend2) ∧
      bmcaAge step order ports2 = .ok ports3 ∧
      i' = { i with st := s2, ports := ports3 } ∧
      obs = ev2 ++ (List.range ports3.length).flatMap (fun j => tag (j + 1) ((pend2.lookup (j + 1)).getD [])) := by
  unfold Inst.bmcaWith at h
  simp only at h
  split at h
  · cases h
  · next ports2 s2 ev2 pend2 hap =>
    split at h
    · cases h
    · next ports3 hag =>
      cases h
      exact ⟨ports2, s2, ev2, pend2, ports3, hap, hag, rfl, rfl⟩

/-- a whole BMCA run over `order`, port by port: `ebest` is the Ebest every decision of the run was taken against
(`Inst.ebest`, by `bmcaWith_ok`), `lbs` the Erbest of every port, `pend` the pending actions the run ends with, handed
out in `obs`. Only what `port` says of the ports in `order` asks that `order` names no port twice. -/
structure Ran (i : Inst) (order : List Nat) (i' : Inst) (obs : Obs) (ebest : Option Best)
    (lbs : List (Nat × Option Best)) (pend : List (Nat × List Out)) : Prop where
  length : i'.ports.length = i.ports.length
  thread : Thread ebest i.st i'.st
  erbest : ∀ {j : Nat} {p : Port} {b : Best}, i.ports[j]? = some p → (lbs.lookup (j + 1)).getD none = some b →
    b.identity = p.fml.own
  plain : ∀ x ∈ obs, x.2.plain
  handed : ∀ {j : Nat} {p : Port}, i.ports[j]? = some p → ∀ o ∈ (pend.lookup (j + 1)).getD [], (j + 1, o) ∈ obs
  fixed : ∀ {j : Nat} {p p' : Port}, i.ports[j]? = some p → i'.ports[j]? = some p' → Fixed p p'
  port : ∀ {j : Nat} {p p' : Port}, i.ports[j]? = some p → i'.ports[j]? = some p' →
    (j + 1 ∉ order → SameRole p p') ∧
    (order.Nodup → j + 1 ∈ order → Visited ebest lbs i.st.dflt i'.st j p p' none (pend.lookup (j + 1)))

section
variable {i i' : Inst} {order : List Nat} {obs : Obs} {ebest : Option Best} {lbs : List (Nat × Option Best)}
  {pend : List (Nat × List Out)} {j : Nat} {p p' : Port}

theorem Ran.dflt (h : Ran i order i' obs ebest lbs pend) : i'.st.dflt = i.st.dflt := h.thread.dflt

theorem Ran.back (h : Ran i order i' obs ebest lbs pend) (hp' : i'.ports[j]? = some p') : ∃ p, i.ports[j]? = some p :=
  getElem?_same_length h.length.symm hp'

/-- the host passes every port once, as `PtpInstance::bmca` requires -/
theorem Ran.visited (h : Ran i order i' obs ebest lbs pend) (hnd : order.Nodup)
    (hall : ∀ j, j < i.ports.length → j + 1 ∈ order) (hp : i.ports[j]? = some p) (hp' : i'.ports[j]? = some p') :
    Visited ebest lbs i.st.dflt i'.st j p p' none (pend.lookup (j + 1)) :=
  (h.port hp hp').2 hnd (hall j (List.getElem?_eq_some_iff.1 hp).1)

theorem Ran.fresh (h : Ran i order i' obs ebest lbs pend) (hnd : order.Nodup) (hp : i.ports[j]? = some p)
    (hp' : i'.ports[j]? = some p') : FreshOrSame p.st p'.st := by
  by_cases hjo : j + 1 ∈ order
  · exact ((h.port hp hp').2 hnd hjo).fresh
  · exact .inl ((h.port hp hp').1 hjo).st

end

theorem bmcaWith_ran {i i' : Inst} {order : List Nat} {step : Int} {obs : Obs}
    (h : i.bmcaWith order step = .ok (i', obs)) : ∃ ebest lbs pend, Ran i order i' obs ebest lbs pend := by
  obtain ⟨ports2, s2, ev2, pend2, ports3, hap, hag, rfl, rfl⟩ := bmcaWith_ok h
  obtain ⟨t1, t3⟩ := bmcaTakeBest_spec order i.ports []
  have e := bmcaApply_each hap
  have g := bmcaAge_spec hag
  have hlen : ports3.length = i.ports.length := (g.1.trans e.length).trans t1.1
  have mid : ∀ (j : Nat) (p p' : Port), i.ports[j]? = some p → ports3[j]? = some p' →
      ∃ p1 p2, (bmcaTakeBest order i.ports []).1[j]? = some p1 ∧ ports2[j]? = some p2 ∧ SameRole p p1 ∧ SameRole p2 p' := by
    intro j p p' hp hp'
    obtain ⟨p1, hp1⟩ := getElem?_same_length t1.1 hp
    obtain ⟨p2, hp2⟩ := getElem?_same_length e.length hp1
    exact ⟨p1, p2, hp1, hp2, t1.2 j p p1 hp hp1, g.2 j p2 p' hp2 hp'⟩
  refine ⟨i.ebest order, (bmcaTakeBest order i.ports []).2, pend2, hlen, e.thread, ?_, ?_, ?_, ?_, ?_⟩
  · intro j p b hp hb
    cases hl : (bmcaTakeBest order i.ports []).2.lookup (j + 1) with
    | none => rw [hl] at hb; cases hb
    | some ob =>
      rw [hl] at hb
      obtain ⟨q, hq, hid⟩ := (t3 (j + 1) ob (lookup_mem hl)).resolve_left List.not_mem_nil
      rw [portAt_succ, hp] at hq
      cases hq
      exact hid b hb
  · intro x hx
    rcases List.mem_append.1 hx with h1 | h1
    · exact (e.events x h1).resolve_left List.not_mem_nil
    · obtain ⟨j, _, hj⟩ := List.mem_flatMap.1 h1
      have ho := (mem_tag.1 hj).2
      cases hl : pend2.lookup (j + 1) with
      | none => rw [hl] at ho; cases ho
      | some l =>
        rw [hl] at ho
        exact (e.pending _ (lookup_mem hl)).resolve_left List.not_mem_nil x.2 ho
  · intro j p hp o ho
    refine List.mem_append_right _ (List.mem_flatMap.2 ⟨j, List.mem_range.2 ?_, mem_tag.2 ⟨rfl, ho⟩⟩)
    exact hlen ▸ (List.getElem?_eq_some_iff.1 hp).1
  · intro j p p' hp hp'
    obtain ⟨p1, p2, hp1, hp2, r1, r3⟩ := mid j p p' hp hp'
    exact (r1.toFixed.trans (e.fixed hp1 hp2)).trans r3.toFixed
  · intro j p p' hp hp'
    obtain ⟨p1, p2, hp1, hp2, r1, r3⟩ := mid j p p' hp hp'
    have y := e.port hp1 hp2
    exact ⟨fun hn => r1.trans (y.1 hn ▸ r3), fun hnd hm => (y.2 hnd hm).wrap r1 r3⟩

theorem bmca_ok {i i' : Inst} {order : List Nat} {obs : Obs} (h : i.bmca order = .ok (i', obs)) :
    i.st.dflt.numberPorts = order.length ∧ ∃ step, i.bmcaWith order step = .ok (i', obs) := by
  unfold Inst.bmca at h
  split at h
  · cases h
  · next hn =>
    obtain ⟨step, _, hw⟩ := orOv_ok _ _ _ h
    exact ⟨Decidable.not_not.1 hn, step, hw⟩

theorem bmca_ran {i i' : Inst} {order : List Nat} {obs : Obs} (h : i.bmca order = .ok (i', obs)) :
    ∃ ebest lbs pend, Ran i order i' obs ebest lbs pend :=
  let ⟨_, _, hw⟩ := bmca_ok h
  bmcaWith_ran hw

section
variable {P : Panic → Prop}

theorem bmcaApply_fails (ebest : Option Best) (lbs : List (Nat × Option Best))
    (hP : ∀ (p : Port) (r : Recommended) (s : InstState), FailsOnly P (p.setRecommendedState r s)) :
    ∀ (order : List Nat) (ports : List Port) (s : InstState) (ev : Obs) (pend : List (Nat × List Out)),
      FailsOnly P (bmcaApply ebest lbs order ports s ev pend) := by
  intro order
  induction order with
  | nil => exact fun ports s ev pend => .ok _
  | cons k rest ih =>
    intro ports s ev pend
    unfold bmcaApply
    split
    · exact ih _ _ _ _
    · dsimp only
      split
      · exact ih _ _ _ _
      · exact (hP _ _ _).bind fun _ => ih _ _ _ _

theorem bmcaAge_fails (step : Int) (hP : ∀ p : Port, FailsOnly P (p.stepAnnounceAge step)) :
    ∀ (order : List Nat) (ports : List Port), FailsOnly P (bmcaAge step order ports) := by
  intro order
  induction order with
  | nil => exact fun ports => .ok _
  | cons k rest ih =>
    intro ports
    unfold bmcaAge
    split
    · exact ih _
    · exact (hP _).bind fun _ => ih _

theorem bmcaWith_fails {i : Inst} {order : List Nat} {step : Int}
    (h2 : ∀ (p : Port) (r : Recommended) (s : InstState), FailsOnly P (p.setRecommendedState r s))
    (h3 : ∀ p : Port, FailsOnly P (p.stepAnnounceAge step)) : FailsOnly P (i.bmcaWith order step) := by
  intro e h
  unfold Inst.bmcaWith at h
  simp only at h
  split at h
  · next hap => cases h; exact bmcaApply_fails _ _ h2 _ _ _ _ _ _ hap
  · split at h
    · next hag => cases h; exact bmcaAge_fails step h3 _ _ _ hag
    · cases h

/-- `PtpInstance::bmca` fails by its assertion on the number of ports, by an announce interval no `Duration` holds, or
where the run fails -/
theorem bmca_fails {i : Inst} {order : List Nat} (ha : P .assertDbg) (ho : P .overflow)
    (h2 : ∀ (p : Port) (r : Recommended) (s : InstState), FailsOnly P (p.setRecommendedState r s))
    (h3 : ∀ (step : Int) (p : Port), FailsOnly P (p.stepAnnounceAge step)) : FailsOnly P (i.bmca order) := by
  unfold Inst.bmca
  split
  · exact fun e h => Except.error.inj h ▸ ha
  · cases durFromLogInterval (if i.logBmca > 62 then 62 else i.logBmca) with
    | none => exact fun e h => Except.error.inj h ▸ ho
    | some step => exact bmcaWith_fails h2 (h3 step)

end

end Statime
