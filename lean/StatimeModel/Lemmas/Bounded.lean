import StatimeModel.Lemmas.Slave
import StatimeModel.Lemmas.WireRoundtrip
import StatimeModel.Lemmas.TimeBasic
/-
Bounded state (C03): every timestamp a port stores is far below the limits of the 128-bit time types, so the
measurement arithmetic on them cannot overflow.

The constants (in units of 2^-32 ns) are a ladder that ends below 2^127, the limit of the signed 128-bit types; any
such ladder would do. A timestamp from the host is below BH = 2^95 (2^63 ns), one decoded from the wire below BW = 2^111
(2^48 s · 10^9 · 2^32 < 2^111), and BH < BW. A 64-bit correction field (2^-16 ns) moves it by less than BC = 2^80, and
BW + BC < BT = 2^112 bounds what is stored. The difference of two stored timestamps is within BT, the configured
asymmetry within BA = 2^110, and BT + BA ≤ BD = 2^113 bounds raw offsets, delays and the mean delay; the last
subtraction stays within BD + BD < 2^127.
-/
namespace Statime

def BT : Nat := 5192296858534827628530496329220096
def BD : Int := 10384593717069655257060992658440192
def BA : Int := 1298074214633706907132624082305024
def BH : Nat := 39614081257132168796771975168
def BW : Nat := 2596148429267413814265248164610048
def BC : Int := 1208925819614629174706176

example : BT = 2 ^ 112 ∧ BD = 2 ^ 113 ∧ BA = 2 ^ 110 ∧ BH = 2 ^ 95 := by decide
example : BW = 2 ^ 111 ∧ BC = 2 ^ 80 := by decide

def absLt (x : Int) (b : Int) : Prop := -b < x ∧ x < b

theorem absLt.mono {a x y : Int} (h : absLt a x) (hxy : x ≤ y) : absLt a y :=
  ⟨Int.lt_of_le_of_lt (Int.neg_le_neg hxy) h.1, Int.lt_of_lt_of_le h.2 hxy⟩

theorem absLt.neg {a x : Int} (h : absLt a x) : absLt (-a) x := ⟨Int.neg_lt_neg h.2, Int.neg_lt_of_neg_lt h.1⟩

/-- below 2^127; by transitivity, so that `omega` is never shown the 39-digit limit next to variables -/
theorem absLt.inI128 {a x : Int} (h : absLt a x) (hx : x ≤ 170141183460469231731687303715884105728) : inI128 a = true :=
  (inI128_iff a).2 ⟨Int.le_of_lt (h.mono hx).1, (h.mono hx).2⟩

theorem timeSub_bnd (a b : Nat) (ha : a < BT) (hb : b < BT) :
    timeSub a b = some ((a : Int) - b) ∧ absLt ((a : Int) - b) (BT : Int) :=
  have hI : BT < I127 := by decide
  ⟨timeSub_eq_some_iff.2 ⟨Nat.lt_trans ha hI, Nat.lt_trans hb hI, rfl⟩, by unfold absLt; omega⟩

theorem durSub_bnd (a b : Int) (x y : Int) (ha : absLt a x) (hb : absLt b y)
    (hxy : x + y ≤ 170141183460469231731687303715884105728) : durSub a b = some (a - b) ∧ absLt (a - b) (x + y) := by
  have hs : absLt (a - b) (x + y) := by unfold absLt at *; omega
  have hy : y ≤ x + y := by unfold absLt at ha; omega
  exact ⟨durSub_eq_some_iff.2 ⟨hb.neg.inI128 (Int.le_trans hy hxy), hs.inI128 hxy, rfl⟩, hs⟩

theorem durHalf_bnd (a x : Int) (h : absLt a (x + x)) (hx : x ≤ 170141183460469231731687303715884105728) :
    durHalf a = some (Int.tdiv a 2) ∧ absLt (Int.tdiv a 2) x := by
  have hb : absLt (Int.tdiv a 2) x := by
    have := tdiv_bounds a (n := 2) (by decide)
    unfold absLt at *
    omega
  exact ⟨(durDivFix_mul_F32 (n := 2) (by decide)).2 ⟨hb.inI128 hx, rfl⟩, hb⟩

def optLt (o : Option Nat) (b : Nat) : Prop := ∀ x, o = some x → x < b

theorem optLt_none (b : Nat) : optLt none b := by intro x h; cases h
theorem optLt_some (x b : Nat) (h : x < b) : optLt (some x) b := by intro y hy; cases hy; exact h

def SyBnd : SyncSt → Prop
  | .empty => True
  | .measuring _ s r => optLt s BT ∧ optLt r BT

def DlBnd : DelaySt → Prop
  | .empty => True
  | .measuring _ s r => optLt s BT ∧ optLt r BT

def PeerBnd : PeerSt → Prop
  | .measuring _ _ a b c d => optLt a BT ∧ optLt b BT ∧ optLt c BT ∧ optLt d BT
  | _ => True

def StBnd : PState → Prop
  | .slave _ sy dl last => SyBnd sy ∧ DlBnd dl ∧ (∀ x, last = some x → absLt x BD)
  | _ => True

theorem stBnd_of_notSlave {st : PState} (h : st.isSlave = false) : StBnd st := by
  cases st with
  | slave => cases h
  | _ => trivial

/-- stored timestamps (Slave sub-state, peer delay exchange) below `BT`; last raw offset and mean delay within `BD`;
configured asymmetry within `BA` -/
def Bnd (p : Port) : Prop :=
  StBnd p.st ∧ PeerBnd p.peer ∧ (∀ m, p.meanDelay = some m → absLt m BD) ∧ absLt p.cfg.delayAsymmetry BA

theorem Bnd.st {p : Port} (h : Bnd p) : StBnd p.st := h.1
theorem Bnd.peer {p : Port} (h : Bnd p) : PeerBnd p.peer := h.2.1
theorem Bnd.meanDelay {p : Port} (h : Bnd p) : ∀ m, p.meanDelay = some m → absLt m BD := h.2.2.1
theorem Bnd.asym {p : Port} (h : Bnd p) : absLt p.cfg.delayAsymmetry BA := h.2.2.2

theorem Bnd.slave {p : Port} {remote : PortId} {sy : SyncSt} {dl : DelaySt} {last : Option Int} (h : Bnd p)
    (hst : p.st = .slave remote sy dl last) : SyBnd sy ∧ DlBnd dl ∧ ∀ x, last = some x → absLt x BD := by
  have := h.st
  rw [hst] at this
  exact this

theorem Bnd.measuring {p : Port} {id : Nat} {resp : Option PortId} {a b c d : Option Nat} (h : Bnd p)
    (hp : p.peer = .measuring id resp a b c d) : optLt a BT ∧ optLt b BT ∧ optLt c BT ∧ optLt d BT := by
  have := h.peer
  rw [hp] at this
  exact this

theorem raw_bnd (a b : Nat) (asym : Int) (ha : a < BT) (hb : b < BT) (hasym : absLt asym BA) :
    timeSub a b = some ((a : Int) - b) ∧ durSub ((a : Int) - b) asym = some ((a : Int) - b - asym) ∧
      absLt ((a : Int) - b - asym) BD := by
  obtain ⟨e1, b1⟩ := timeSub_bnd a b ha hb
  obtain ⟨e2, b2⟩ := durSub_bnd ((a : Int) - b) asym (BT : Int) BA b1 hasym (by unfold BT BA; decide)
  exact ⟨e1, e2, b2.mono (by unfold BT BA BD; decide)⟩

theorem syncMeasurement_total (send recv : Nat) (asym : Int) (md : Option Int) (hs : send < BT) (hr : recv < BT)
    (ha : absLt asym BA) (hm : ∀ m, md = some m → absLt m BD) :
    ∃ r, syncMeasurement send recv asym md = some r ∧ absLt r.1 BD ∧ r.2.delay = none ∧ r.2.peerDelay = none := by
  obtain ⟨e1, e2, b2'⟩ := raw_bnd recv send asym hr hs ha
  unfold syncMeasurement
  rw [e1, Option.bind_some, e2, Option.bind_some]
  cases md with
  | none => exact ⟨_, rfl, b2', rfl, rfl⟩
  | some m =>
    obtain ⟨e3, _⟩ := durSub_bnd ((recv : Int) - send - asym) m BD BD b2' (hm m rfl) (by unfold BD; decide)
    simp only
    rw [e3]
    exact ⟨_, rfl, b2', rfl, rfl⟩

theorem delayMeasurement_total (send recv : Nat) (asym : Int) (last : Option Int) (hs : send < BT) (hr : recv < BT)
    (ha : absLt asym BA) (hl : ∀ x, last = some x → absLt x BD) :
    ∃ m, delayMeasurement send recv asym last = some m ∧ (∀ d, m.delay = some d → absLt d BD) ∧ m.peerDelay = none := by
  obtain ⟨e1, e2, b2'⟩ := raw_bnd send recv asym hs hr ha
  unfold delayMeasurement
  rw [e1, Option.bind_some, e2, Option.bind_some]
  cases last with
  | none => exact ⟨_, rfl, (by intro d hd; cases hd), rfl⟩
  | some rs =>
    obtain ⟨e3, b3⟩ := durSub_bnd rs ((send : Int) - recv - asym) BD BD (hl rs rfl) b2' (by unfold BD; decide)
    obtain ⟨e4, b4⟩ := durHalf_bnd (rs - ((send : Int) - recv - asym)) BD b3 (by unfold BD; decide)
    simp only
    rw [e3, Option.bind_some, e4]
    exact ⟨_, rfl, fun d hd => by cases hd; exact b4, rfl⟩

theorem peerMeasurement_total (t1 t2 t3 t4 : Nat) (h1 : t1 < BT) (h2 : t2 < BT) (h3 : t3 < BT) (h4 : t4 < BT) :
    ∃ m, peerMeasurement t1 t2 t3 t4 = some m ∧ (∀ d, m.peerDelay = some d → absLt d BD) ∧ m.delay = none := by
  obtain ⟨e1, b1⟩ := timeSub_bnd t4 t1 h4 h1
  obtain ⟨e2, b2⟩ := timeSub_bnd t3 t2 h3 h2
  obtain ⟨e3, b3⟩ := durSub_bnd ((t4 : Int) - t1) ((t3 : Int) - t2) (BT : Int) (BT : Int) b1 b2 (by unfold BT; decide)
  obtain ⟨e4, b4⟩ := durHalf_bnd _ BT b3 (by unfold BT; decide)
  unfold peerMeasurement
  rw [e1, Option.bind_some, e2, Option.bind_some, e3, Option.bind_some, e4]
  exact ⟨_, rfl, fun d hd => by cases hd; exact b4.mono (by unfold BT BD; decide), rfl⟩

theorem wireToTime_total (w : WireTs) (hw : w.WF) : ∃ t, wireToTime w = some t ∧ t < BW := by
  have hlt : (w.secs * NS + w.nanos) * F32 < BW := by
    unfold WireTs.WF at hw
    unfold NS F32 BW
    omega
  exact ⟨_, wireToTime_eq_some_iff.2 ⟨Nat.lt_trans hlt (by decide), rfl⟩, hlt⟩

theorem timeAddDur_bnd (t : Nat) (d : Int) (ht : t < BW) (hd : absLt d BC) : ∃ r, timeAddDur t d = some r ∧ r < BT := by
  unfold absLt BC at hd
  unfold BW at ht
  exact ⟨_, timeAddDur_eq_some_iff.2 ⟨by omega, rfl⟩, by unfold BT; omega⟩

theorem tivToDur_bnd {c : Int} (hc : inI64 c = true) : absLt (tivToDur c) BC := by
  rw [inI64_iff] at hc
  unfold absLt tivToDur F16 BC; omega

theorem timeSubDur_total (t : Nat) (c : Int) (ht : t < BW) (hc : inI64 c = true) :
    ∃ r, timeSubDur t (tivToDur c) = some r ∧ r < BT := by
  have hb := (tivToDur_bnd hc).neg
  rw [timeSubDur_eq_add_neg (hb.inI128 (by unfold BC; decide))]
  exact timeAddDur_bnd t _ ht hb

/-- the call returned normally, and the port it returned is bounded -/
def Good (x : R (Port × List Out)) : Prop := ∃ p' o, x = .ok (p', o) ∧ Bnd p'

theorem good_ok (p : Port) (o : List Out) (h : Bnd p) : Good (.ok (p, o)) := ⟨p, o, rfl, h⟩

theorem bnd_setState (p : Port) (st : PState) (h : Bnd p) (hs : StBnd st) : Bnd (p.setState st).1 :=
  ⟨hs, h.peer, h.meanDelay, h.asym⟩

theorem bnd_withSlave (p : Port) (remote : PortId) (sy : SyncSt) (dl : DelaySt) (last : Option Int) (h : Bnd p)
    (h1 : SyBnd sy) (h2 : DlBnd dl) (h3 : ∀ x, last = some x → absLt x BD) : Bnd (p.withSlave remote sy dl last) :=
  ⟨⟨h1, h2, h3⟩, h.peer, h.meanDelay, h.asym⟩

theorem bnd_withPeer (p : Port) (ps : PeerSt) (h : Bnd p) (hp : PeerBnd ps) : Bnd ({ p with peer := ps } : Port) :=
  ⟨h.st, hp, h.meanDelay, h.asym⟩

theorem filterMeanDelay_bnd {m : Measurement} {d : Int} (h : filterMeanDelay m = some d)
    (h1 : ∀ x, m.delay = some x → absLt x BD) (h2 : ∀ x, m.peerDelay = some x → absLt x BD) : absLt d BD := by
  unfold filterMeanDelay at h
  cases hd : m.delay with
  | some x => rw [hd] at h; cases h; exact h1 _ hd
  | none => rw [hd] at h; exact h2 d h

theorem bnd_noteDelay {q : Port} {m : Measurement} (hq : Bnd q)
    (hm : ∀ d, filterMeanDelay m = some d → absLt d BD) : Bnd (q.noteDelay m) := by
  unfold Port.noteDelay
  split
  · next md e => exact ⟨hq.st, hq.peer, fun x ex => by cases ex; exact hm md e, hq.asym⟩
  · exact hq

theorem peer_total {p : Port} {id : Nat} {resp : PortId} {t1 t2 t3 t4 : Nat} (hb : Bnd p)
    (hp : p.peer = .measuring id (some resp) (some t1) (some t2) (some t3) (some t4)) :
    ∃ m, peerMeasurement t1 t2 t3 t4 = some m ∧ ∀ d, filterMeanDelay m = some d → absLt d BD := by
  obtain ⟨b1, b2, b3, b4⟩ := hb.measuring hp
  obtain ⟨m, e, hd, hnd⟩ := peerMeasurement_total _ _ _ _ (b1 _ rfl) (b2 _ rfl) (b3 _ rfl) (b4 _ rfl)
  exact ⟨m, e, fun d e => filterMeanDelay_bnd e (fun x hx => by rw [hnd] at hx; cases hx) hd⟩

theorem Took.bnd {p q : Port} {ev : List Out} {m : Measurement} (h : Took p q ev m) (hb : Bnd p) :
    Bnd (q.noteDelay m) := by
  cases h with
  | sync hs _ hm =>
    obtain ⟨hsy, hdl, _⟩ := hb.slave hs
    obtain ⟨r, e, hr, hn1, hn2⟩ := syncMeasurement_total _ _ _ _ (hsy.1 _ rfl) (hsy.2 _ rfl) hb.asym hb.meanDelay
    rw [hm] at e; cases e
    exact bnd_noteDelay (bnd_withSlave p _ _ _ _ hb trivial hdl fun x e => by cases e; exact hr)
      fun d e => filterMeanDelay_bnd e (fun x hx => by rw [hn1] at hx; cases hx) (fun x hx => by rw [hn2] at hx; cases hx)
  | delay hs _ _ hm =>
    obtain ⟨hsy, hdl, hlast⟩ := hb.slave hs
    obtain ⟨m', e, hd, hnp⟩ := delayMeasurement_total _ _ _ _ (hdl.1 _ rfl) (hdl.2 _ rfl) hb.asym hlast
    rw [hm] at e; cases e
    exact bnd_noteDelay (bnd_withSlave p _ _ _ _ hb hsy trivial hlast)
      fun d e => filterMeanDelay_bnd e hd (fun x hx => by rw [hnp] at hx; cases hx)
  | peer hp hm _ =>
    obtain ⟨m', e, hf⟩ := peer_total hb hp
    rw [hm] at e; cases e
    exact bnd_noteDelay (bnd_withPeer p _ hb trivial) hf
  | recover hp hm _ =>
    obtain ⟨m', e, hf⟩ := peer_total hb hp
    rw [hm] at e; cases e
    exact bnd_noteDelay (bnd_setState _ .listening (bnd_withPeer p _ hb trivial) trivial) hf

theorem Bnd.not_overflows {p : Port} (hb : Bnd p) : ¬ Overflows p := by
  rintro (⟨hs, hm⟩ | ⟨hs, hm⟩ | ⟨hp, hm⟩)
  · obtain ⟨hsy, _, _⟩ := hb.slave hs
    obtain ⟨_, e, _⟩ := syncMeasurement_total _ _ _ _ (hsy.1 _ rfl) (hsy.2 _ rfl) hb.asym hb.meanDelay
    rw [hm] at e; cases e
  · obtain ⟨_, hdl, hlast⟩ := hb.slave hs
    obtain ⟨_, e, _⟩ := delayMeasurement_total _ _ _ _ (hdl.1 _ rfl) (hdl.2 _ rfl) hb.asym hlast
    rw [hm] at e; cases e
  · obtain ⟨_, e, _⟩ := peer_total hb hp
    rw [hm] at e; cases e

theorem timeMeasurement_good (p : Port) (h : Bnd p) : Good p.timeMeasurement := by
  have hc := timeMeasurement_cases p
  generalize p.timeMeasurement = x at hc
  cases hc with
  | nothing => exact good_ok _ _ h
  | took ht => exact good_ok _ _ (ht.bnd h)
  | overflow ho => exact absurd ho h.not_overflows

theorem bh_lt_bt (ts : Nat) (h : ts < BH) : ts < BT := Nat.lt_trans h (by decide)

theorem Ends.good {p : Port} {Q : Port → Prop} {E F : Prop} {x : R (Port × List Out)} (hx : Ends p Q E F x)
    (hE : ¬ E) (hb : Bnd p) (hQ : ∀ q, Q q → Bnd q) : Good x := by
  cases hx with
  | stay => exact good_ok _ _ hb
  | store _ hq => exact good_ok _ _ (hQ _ hq)
  | measure _ hq => exact timeMeasurement_good _ (hQ _ hq)
  | ov e => exact absurd e hE
  | fault => exact good_ok _ _ (bnd_setState p .faulty hb trivial)

theorem syncRecv_total {ts : Nat} {c : Int} (hts : ts < BH) (hc : inI64 c = true) :
    ∃ r, Spec.syncRecv c ts = some r ∧ r < BT :=
  timeSubDur_total ts c (Nat.lt_trans hts (by decide)) hc

theorem wireToTime_stored {o : WireTs} (ho : o.WF) : ∃ r, wireToTime o = some r ∧ r < BT := by
  obtain ⟨t, ht, hb⟩ := wireToTime_total o ho
  exact ⟨t, ht, Nat.lt_trans hb (by decide)⟩

theorem oneStepSend_total {o : WireTs} (ho : o.WF) : ∃ r, Spec.oneStepSend o = some r ∧ r < BT := wireToTime_stored ho

theorem followUpSend_total {o : WireTs} {c : Int} (ho : o.WF) (hc : inI64 c = true) :
    ∃ r, Spec.followUpSend c o = some r ∧ r < BT := by
  obtain ⟨t, ht, hb⟩ := wireToTime_total o ho
  obtain ⟨r, hr, hrb⟩ := timeAddDur_bnd t _ hb (tivToDur_bnd hc)
  exact ⟨r, by unfold Spec.followUpSend; rw [ht]; exact hr, hrb⟩

theorem delayRecv_total {rx : WireTs} {c : Int} (ho : rx.WF) (hc : inI64 c = true) :
    ∃ r, Spec.delayRecv c rx = some r ∧ r < BT := by
  obtain ⟨t, ht, hb⟩ := wireToTime_total rx ho
  obtain ⟨r, hr, hrb⟩ := timeSubDur_total t c hb hc
  exact ⟨r, by unfold Spec.delayRecv; rw [ht]; exact hr, hrb⟩

theorem handleSync_good (p : Port) (h : Header) (o : WireTs) (ts : Nat) (hb : Bnd p) (hts : ts < BH)
    (ho : o.WF) (hc : inI64 h.correction = true) : Good (p.handleSync h o ts) := by
  obtain ⟨c, hc1, hcb⟩ := syncRecv_total hts hc
  obtain ⟨s0, hs1, hsb⟩ := oneStepSend_total ho
  refine (handleSync_ends p h o ts).good (by rw [hc1, hs1]; rintro (e | e) <;> cases e) hb ?_
  rintro _ ⟨hst, _, hc', hsend⟩
  rw [hc1] at hc'; cases hc'
  obtain ⟨hsy, hdl, hlast⟩ := hb.slave hst
  refine bnd_withSlave p _ _ _ _ hb ⟨?_, optLt_some _ _ hcb⟩ hdl hlast
  rcases hsend with rfl | ⟨recv, rfl⟩ | ⟨_, _, e⟩
  · exact optLt_none _
  · exact hsy.1
  · rw [hs1] at e; rw [← e]; exact optLt_some _ _ hsb

theorem handleFollowUp_good (p : Port) (h : Header) (o : WireTs) (hb : Bnd p) (ho : o.WF)
    (hc : inI64 h.correction = true) : Good (p.handleFollowUp h o) := by
  obtain ⟨s0, hs1, hsb⟩ := followUpSend_total ho hc
  refine (handleFollowUp_ends p h o).good (by rw [hs1]; exact Option.some_ne_none _) hb ?_
  rintro _ ⟨hst, _, hs', hrecv⟩
  rw [hs1] at hs'; cases hs'
  obtain ⟨hsy, hdl, hlast⟩ := hb.slave hst
  refine bnd_withSlave p _ _ _ _ hb ⟨optLt_some _ _ hsb, ?_⟩ hdl hlast
  rcases hrecv with rfl | rfl
  · exact optLt_none _
  · exact hsy.2

theorem handleDelayResp_good (p : Port) (h : Header) (rx : WireTs) (req : PortId) (hb : Bnd p) (ho : rx.WF)
    (hc : inI64 h.correction = true) : Good (p.handleDelayResp h rx req) := by
  obtain ⟨r0, hr1, hrb⟩ := delayRecv_total ho hc
  refine (handleDelayResp_ends p h rx req).good (by rw [hr1]; exact Option.some_ne_none _) hb ?_
  rintro _ ⟨hst, _, _, hr'⟩
  rw [hr1] at hr'; cases hr'
  obtain ⟨hsy, hdl, hlast⟩ := hb.slave hst
  exact bnd_withSlave p _ _ _ _ hb hsy ⟨hdl.1, optLt_some _ _ hrb⟩ hlast

theorem handleDelayTs_good (p : Port) (id ts : Nat) (hb : Bnd p) (hts : ts < BH) : Good (p.handleDelayTs id ts) := by
  refine (handleDelayTs_ends p id ts).good not_false hb ?_
  rintro _ ⟨hst⟩
  obtain ⟨hsy, hdl, hlast⟩ := hb.slave hst
  exact bnd_withSlave p _ _ _ _ hb hsy ⟨optLt_some _ _ (bh_lt_bt ts hts), hdl.2⟩ hlast

theorem handlePdelayTs_good (p : Port) (id ts : Nat) (hb : Bnd p) (hts : ts < BH) : Good (p.handlePdelayTs id ts) := by
  refine (handlePdelayTs_ends p id ts).good not_false hb ?_
  rintro _ ⟨hp⟩
  obtain ⟨_, h2, h3, h4⟩ := hb.measuring hp
  exact bnd_withPeer p _ hb ⟨optLt_some _ _ (bh_lt_bt ts hts), h2, h3, h4⟩

theorem handlePdelayResp_good (p : Port) (h : Header) (rx : WireTs) (req : PortId) (ts : Nat) (hb : Bnd p)
    (hts : ts < BH) (ho : rx.WF) (hc : inI64 h.correction = true) : Good (p.handlePdelayResp h rx req ts) := by
  obtain ⟨rr0, hrr1, hrrb⟩ := syncRecv_total hts hc
  obtain ⟨rq0, hrq1, hrqb⟩ := wireToTime_stored ho
  refine (handlePdelayResp_ends p h rx req ts).good (by rw [hrr1, hrq1]; rintro (e | e) <;> cases e) hb ?_
  rintro _ ⟨hp, _, hrr', hrq'⟩
  rw [hrr1] at hrr'; cases hrr'
  rw [hrq1] at hrq'; cases hrq'
  obtain ⟨h1, _, h3, _⟩ := hb.measuring hp
  refine bnd_withPeer p _ hb ⟨h1, optLt_some _ _ hrqb, ?_, optLt_some _ _ hrrb⟩
  split
  · exact optLt_some _ _ hrqb
  · exact h3

theorem handlePdelayRespFu_good (p : Port) (h : Header) (o : WireTs) (req : PortId) (hb : Bnd p)
    (ho : o.WF) (hc : inI64 h.correction = true) : Good (p.handlePdelayRespFu h o req) := by
  obtain ⟨s0, hs1, hsb⟩ := followUpSend_total ho hc
  refine (handlePdelayRespFu_ends p h o req).good (by rw [hs1]; exact Option.some_ne_none _) hb ?_
  rintro _ ⟨hp, _, hs'⟩
  rw [hs1] at hs'; cases hs'
  obtain ⟨h1, h2, _, h4⟩ := hb.measuring hp
  exact bnd_withPeer p _ hb ⟨h1, h2, optLt_some _ _ hsb, h4⟩

end Statime
