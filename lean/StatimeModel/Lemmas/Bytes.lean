import StatimeModel.Model.Wire
/-
A field depends only on the octets it covers (`beVal_congr`). An encoder is a concatenation of fields: reading at an
offset peels what lies in front (`beVal_append_right`, `beVal_cons_succ`) and then reads back what was written
(`beVal_beBytes`), so that no proof above this file unfolds `beVal` or `beBytes`.
-/
namespace Statime

@[simp] theorem byteAt_cons_zero (a : UInt8) (l : List UInt8) : byteAt (a :: l) 0 = a.toNat := by
  simp [byteAt]

@[simp] theorem byteAt_cons_succ (a : UInt8) (l : List UInt8) (i : Nat) :
    byteAt (a :: l) (i + 1) = byteAt l i := by
  simp [byteAt]

theorem byteAt_ofNat_cons (v : Nat) (l : List UInt8) : byteAt (UInt8.ofNat v :: l) 0 = v % 256 := by
  rw [byteAt_cons_zero, UInt8.toNat_ofNat']

theorem byteAt_take (b : List UInt8) (n i : Nat) (h : i < n) : byteAt (b.take n) i = byteAt b i := by
  simp [byteAt, List.getD_eq_getElem?_getD, h]

theorem byteAt_congr_take {b b' : List UInt8} {n i : Nat} (h : b.take n = b'.take n) (hi : i < n) :
    byteAt b i = byteAt b' i := by
  rw [← byteAt_take b n i hi, ← byteAt_take b' n i hi, h]

theorem byteAt_drop (b : List UInt8) (k i : Nat) : byteAt (b.drop k) i = byteAt b (k + i) := by
  simp [byteAt, List.getD_eq_getElem?_getD, List.getElem?_drop]

theorem byteAt_append_left (a b : List UInt8) (i : Nat) (h : i < a.length) :
    byteAt (a ++ b) i = byteAt a i := by
  simp [byteAt, List.getD_eq_getElem?_getD, List.getElem?_append_left h]

theorem byteAt_append_right (a b : List UInt8) (i : Nat) (h : a.length ≤ i) :
    byteAt (a ++ b) i = byteAt b (i - a.length) := by
  simp [byteAt, List.getD_eq_getElem?_getD, List.getElem?_append_right h]

theorem byteAt_lt (b : List UInt8) (i : Nat) : byteAt b i < 256 := by
  unfold byteAt
  exact UInt8.toNat_lt _

theorem beVal_one (b : List UInt8) (i : Nat) : beVal b i 1 = byteAt b i := by
  simp [beVal]

theorem beVal_congr {b b' : List UInt8} {i i' w : Nat} (h : ∀ j, j < w → byteAt b (i + j) = byteAt b' (i' + j)) :
    beVal b i w = beVal b' i' w := by
  induction w with
  | zero => rfl
  | succ w ih =>
    simp only [beVal]
    rw [ih fun j hj => h j (Nat.lt_succ_of_lt hj), h w (Nat.lt_succ_self w)]

theorem beVal_take (b : List UInt8) (n i w : Nat) (h : i + w ≤ n) : beVal (b.take n) i w = beVal b i w :=
  beVal_congr fun _ hj => byteAt_take _ _ _ (Nat.lt_of_lt_of_le (Nat.add_lt_add_left hj i) h)

theorem beVal_drop (b : List UInt8) (k i w : Nat) : beVal (b.drop k) i w = beVal b (k + i) w :=
  beVal_congr fun j _ => by rw [byteAt_drop, Nat.add_assoc]

theorem beVal_congr_take {b b' : List UInt8} {n i w : Nat} (h : b.take n = b'.take n) (hi : i + w ≤ n) :
    beVal b i w = beVal b' i w :=
  beVal_congr fun _ hj => byteAt_congr_take h (Nat.lt_of_lt_of_le (Nat.add_lt_add_left hj i) hi)

theorem beVal_append_left (a b : List UInt8) (i w : Nat) (h : i + w ≤ a.length) : beVal (a ++ b) i w = beVal a i w :=
  beVal_congr fun _ hj => byteAt_append_left _ _ _ (Nat.lt_of_lt_of_le (Nat.add_lt_add_left hj i) h)

theorem beVal_append_right (a b : List UInt8) (i w : Nat) (h : a.length ≤ i) :
    beVal (a ++ b) i w = beVal b (i - a.length) w :=
  beVal_congr fun j _ => by
    rw [byteAt_append_right _ _ _ (Nat.le_trans h (Nat.le_add_right i j)), Nat.sub_add_comm h]

theorem beVal_cons_succ (a : UInt8) (l : List UInt8) (i w : Nat) : beVal (a :: l) (i + 1) w = beVal l i w :=
  beVal_congr fun j _ => by rw [Nat.add_right_comm, byteAt_cons_succ]

theorem digit_lt {x y m n : Nat} (hx : x < m) (hy : y < n) : x * n + y < m * n :=
  calc x * n + y < x * n + n := Nat.add_lt_add_left hy _
    _ = (x + 1) * n := (Nat.succ_mul x n).symm
    _ ≤ m * n := Nat.mul_le_mul_right n hx

theorem beVal_lt (b : List UInt8) (i w : Nat) : beVal b i w < 256 ^ w := by
  induction w with
  | zero => exact Nat.one_pos
  | succ w ih => exact digit_lt ih (byteAt_lt b (i + w))

@[simp] theorem beBytes_length (v n : Nat) : (beBytes v n).length = n := by
  induction n generalizing v with
  | zero => rfl
  | succ n ih => simp [beBytes, ih]

theorem beVal_beBytes (v n : Nat) (rest : List UInt8) :
    beVal (beBytes v n ++ rest) 0 n = v % 256 ^ n := by
  induction n generalizing v rest with
  | zero => simp [beVal, Nat.mod_one]
  | succ n ih =>
    simp only [beVal, beBytes, List.append_assoc, Nat.zero_add]
    rw [ih (v / 256), byteAt_append_right _ _ _ (Nat.le_of_eq (beBytes_length ..)), beBytes_length, Nat.sub_self,
      List.singleton_append, byteAt_ofNat_cons, Nat.mod_mod, Nat.pow_succ, Nat.mul_comm (256 ^ n), Nat.mod_mul,
      Nat.mul_comm, Nat.add_comm]

theorem beVal_beBytes_of_lt {v n : Nat} (rest : List UInt8) (h : v < 256 ^ n) :
    beVal (beBytes v n ++ rest) 0 n = v := by
  rw [beVal_beBytes, Nat.mod_eq_of_lt h]

theorem beVal_beBytes_pair {v v' n n' : Nat} (rest : List UInt8) (h : v < 256 ^ n) (h' : v' < 256 ^ n') :
    beVal (beBytes v n ++ beBytes v' n' ++ rest) 0 n = v ∧
    beVal (beBytes v n ++ beBytes v' n' ++ rest) n n' = v' := by
  rw [List.append_assoc, beVal_beBytes_of_lt _ h, beVal_append_right _ _ _ _ (Nat.le_of_eq (beBytes_length ..)),
    beBytes_length, Nat.sub_self, beVal_beBytes_of_lt _ h']
  exact ⟨rfl, rfl⟩

theorem ofSigned_lt (bits : Nat) (x : Int) : ofSigned bits x < 2 ^ bits :=
  have hp : (0 : Int) < ((2 ^ bits : Nat) : Int) := Int.natCast_pos.mpr (Nat.pow_pos (by decide))
  (Int.toNat_lt (Int.emod_nonneg x (Int.ne_of_gt hp))).2 (Int.emod_lt_of_pos x hp)

theorem two_pow_pred {bits : Nat} (hb : 0 < bits) : 2 ^ bits = 2 * 2 ^ (bits - 1) := by
  rw [← Nat.pow_succ', Nat.succ_eq_add_one, Nat.sub_add_cancel hb]

theorem toSigned_ofSigned (bits : Nat) (x : Int) (hb : 0 < bits)
    (h : -((2 ^ (bits - 1) : Nat) : Int) ≤ x ∧ x < ((2 ^ (bits - 1) : Nat) : Int)) :
    toSigned bits (ofSigned bits x) = x := by
  unfold toSigned ofSigned
  rw [two_pow_pred hb, Nat.two_mul]
  generalize 2 ^ (bits - 1) = P at h ⊢
  -- the representative `x % (P + P)` is a natural number `n`: `x` itself, or `x + (P + P)` when `x` is negative
  by_cases hx : 0 ≤ x
  · obtain ⟨n, rfl⟩ := Int.eq_ofNat_of_zero_le hx
    have hn : n < P := Int.ofNat_lt.1 h.2
    rw [Int.emod_eq_of_lt hx (Int.ofNat_lt.2 (Nat.lt_add_left P hn)), Int.toNat_natCast, if_pos hn]
  · obtain ⟨n, hn⟩ := Int.eq_ofNat_of_zero_le (by omega : 0 ≤ x + ↑(P + P))
    have hP : P ≤ n ∧ n < P + P := by omega
    rw [← Int.add_mul_emod_self_left x _ 1, Int.mul_one, hn,
      Int.emod_eq_of_lt (Int.natCast_nonneg n) (Int.ofNat_lt.2 hP.2), Int.toNat_natCast,
      if_neg (Nat.not_lt.2 hP.1), ← hn, Int.add_sub_cancel]

theorem toSigned_range (bits v : Nat) (hb : 0 < bits) (hv : v < 2 ^ bits) :
    -((2 ^ (bits - 1) : Nat) : Int) ≤ toSigned bits v ∧ toSigned bits v < ((2 ^ (bits - 1) : Nat) : Int) := by
  unfold toSigned
  rw [two_pow_pred hb] at hv ⊢
  generalize 2 ^ (bits - 1) = P at hv ⊢
  omega

theorem bit_eq_testBit (v k : Nat) : bit v k = v.testBit k := (Nat.testBit_eq_decide_div_mod_eq ..).symm

theorem bit_mod_256 (v k : Nat) (hk : k < 8) : bit (v % 256) k = bit v k := by
  rw [bit_eq_testBit, bit_eq_testBit, show 256 = 2 ^ 8 from rfl, Nat.testBit_mod_two_pow, decide_eq_true hk,
    Bool.true_and]

theorem bit_zero_add (b : Bool) (r : Nat) : bit (b2n b + 2 * r) 0 = b := by
  cases b <;> simp [bit, b2n, Nat.add_mod]

theorem bit_succ_add (b : Bool) (r k : Nat) : bit (b2n b + 2 * r) (k + 1) = bit r k := by
  have : b2n b < 2 := by cases b <;> decide
  rw [bit_eq_testBit, Nat.testBit_succ, ← bit_eq_testBit, Nat.add_mul_div_left _ _ (by decide),
    Nat.div_eq_of_lt this, Nat.zero_add]

theorem nibbles_div (a b : Nat) (ha : a < 16) (hb : b < 16) : (a * 16 + b) % 256 / 16 = a := by
  rw [Nat.mod_eq_of_lt (digit_lt ha hb), Nat.add_comm, Nat.add_mul_div_right _ _ (by decide), Nat.div_eq_of_lt hb, Nat.zero_add]

theorem nibbles_mod (a b : Nat) (hb : b < 16) : (a * 16 + b) % 256 % 16 = b := by
  rw [Nat.mod_mod_of_dvd _ (by decide), Nat.add_comm, Nat.add_mul_mod_self_right, Nat.mod_eq_of_lt hb]

theorem getD_map_range {α} (f : Nat → α) (d : α) {n v : Nat} (h : v < n) :
    ((List.range n).map f).getD v d = f v := by
  simp [List.getD_eq_getElem?_getD, List.getElem?_map, List.getElem?_range h]

end Statime
