import StatimeModel.Model.Bmca
/-!
# An interpreter for the comparison tables the translator extracts

`translator/extract_cmp.py` reads `statime/src/bmc/dataset_comparison.rs` on
every run and writes `Generated/DatasetComparison.lean`: the `then_with` chain of
`compare_different_identity` as a list of fields, the arms of the `match` of
`compare_same_identity` as data (`Arm`), the dispatch of `compare`, the table of
`as_ordering` and the field assignments of the two constructors.  This file gives
those tables their meaning (`evalDifferent`, `evalArms`, …); `Props/C05.lean`
proves that the meaning of the tables extracted on this run is the model's
`CmpDS.compare` / `DOrd.asOrdering` / `CmpDS.ofAnnounce` / `CmpDS.ofOwn`
for all data sets.
-/
namespace Statime.CmpGen
open Statime

inductive Field | gmP1 | gmClass | gmAcc | gmVar | gmP2 | gmId | steps | sender | recvClock | recvPort
  deriving DecidableEq, Repr, Inhabited

def Field.get : Field → CmpDS → Nat
  | .gmP1, d => d.gmP1
  | .gmClass, d => d.gmClass
  | .gmAcc, d => d.gmAcc
  | .gmVar, d => d.gmVar
  | .gmP2, d => d.gmP2
  | .gmId, d => d.gmId
  | .steps, d => d.steps
  | .sender, d => d.sender
  | .recvClock, d => d.receiver.clock
  | .recvPort, d => d.receiver.port

inductive Side | self | other
  deriving DecidableEq, Repr, Inhabited

def Side.pick : Side → CmpDS → CmpDS → CmpDS
  | .self, a, _ => a
  | .other, _, b => b

def cmpNat (x y : Nat) : Ordering := if x < y then .lt else if y < x then .gt else .eq

def pick3 (o : Ordering) (lt eq gt : DOrd) : DOrd :=
  match o with
  | .lt => lt
  | .eq => eq
  | .gt => gt

/-- the right-hand side of one arm of `match steps_removed_difference` -/
inductive Body
  | const (r : DOrd)
  | cmp (ls : Side) (lf : Field) (rs : Side) (rf : Field) (lt eq gt : DOrd)
  | lex (keys : List Field) (lt eq gt : DOrd)
  deriving Repr, Inhabited

def lexKeys (keys : List Field) (a b : CmpDS) : Ordering :=
  lexCmp (keys.map (fun f => (f.get a, f.get b)))

def Body.eval : Body → CmpDS → CmpDS → DOrd
  | .const r, _, _ => r
  | .cmp ls lf rs rf lt eq gt, a, b => pick3 (cmpNat (lf.get (ls.pick a b)) (rf.get (rs.pick a b))) lt eq gt
  | .lex keys lt eq gt, a, b => pick3 (lexKeys keys a b) lt eq gt

/-- an arm: inclusive range of the difference (`none` = `i32::MIN` / `i32::MAX`) and its body -/
structure Arm where
  lo : Option Int
  hi : Option Int
  body : Body
  deriving Repr, Inhabited

def geLo : Option Int → Int → Bool
  | none, _ => true
  | some l, d => decide (l ≤ d)

def leHi : Option Int → Int → Bool
  | none, _ => true
  | some h, d => decide (d ≤ h)

/-- first matching arm, as Rust's `match` does; `none` would be a non-exhaustive match -/
def evalArms : List Arm → CmpDS → CmpDS → Option DOrd
  | [], _, _ => none
  | m :: ms, a, b =>
    if geLo m.lo ((a.steps : Int) - (b.steps : Int)) && leHi m.hi ((a.steps : Int) - (b.steps : Int))
    then some (m.body.eval a b) else evalArms ms a b

/-- `compare_different_identity` for an extracted chain and its two result arms -/
def evalDifferent (keys : List Field) (lt gt : DOrd) (a b : CmpDS) : Option DOrd :=
  match lexKeys keys a b with
  | .lt => some lt
  | .gt => some gt
  | .eq => none

/-- the whole `compare`: dispatch field, arms, chain -/
def evalCompare (dispatch : Field) (arms : List Arm) (keys : List Field) (lt gt : DOrd) (a b : CmpDS) : Option DOrd :=
  if dispatch.get a = dispatch.get b then evalArms arms a b
  else some ((evalDifferent keys lt gt a b).getD .error2)

inductive AnnF | p1 | gm | clockClass | accuracy | variance | p2 | steps
  deriving DecidableEq, Repr, Inhabited
inductive OwnF | p1 | p2 | clockIdentity | clockClass | accuracy | variance
  deriving DecidableEq, Repr, Inhabited

/-- where a constructor takes a field from -/
inductive Src
  | annBody (f : AnnF)           -- message.<field>
  | annSender                    -- message.header.source_port_identity.clock_identity
  | receiverClock | receiverPort -- *port_receiver_identity
  | own (f : OwnF)               -- data.<field> / data.clock_quality.<field>
  | zero
  deriving DecidableEq, Repr, Inhabited

def Src.ofAnn (a : Ann) (r : PortId) : Src → Option Nat
  | .annBody .p1 => some a.body.p1
  | .annBody .gm => some a.body.gm
  | .annBody .clockClass => some a.body.clockClass
  | .annBody .accuracy => some a.body.accuracy
  | .annBody .variance => some a.body.variance
  | .annBody .p2 => some a.body.p2
  | .annBody .steps => some a.body.steps
  | .annSender => some a.hdr.src.clock
  | .receiverClock => some r.clock
  | .receiverPort => some r.port
  | _ => none

def Src.ofOwn (d : DefaultDS) : Src → Option Nat
  | .own .p1 => some d.p1
  | .own .p2 => some d.p2
  | .own .clockIdentity => some d.clockIdentity
  | .own .clockClass => some d.quality.clockClass
  | .own .accuracy => some d.quality.accuracy
  | .own .variance => some d.quality.variance
  | .zero => some 0
  | _ => none

/-- the data set a constructor table builds: every field looked up in the table -/
def build (tbl : List (Field × Src)) (val : Src → Option Nat) : Option CmpDS :=
  let g (f : Field) : Option Nat := (tbl.lookup f).bind val
  match g .gmP1, g .gmId, g .gmClass, g .gmAcc, g .gmVar, g .gmP2, g .steps, g .sender, g .recvClock, g .recvPort with
  | some p1, some gm, some cl, some ac, some va, some p2, some st, some se, some rc, some rp =>
    some { gmP1 := p1, gmId := gm, gmClass := cl, gmAcc := ac, gmVar := va, gmP2 := p2, steps := st,
           sender := se, receiver := ⟨rc, rp⟩ }
  | _, _, _, _, _, _, _, _, _, _ => none

def lookupOrd (tbl : List (DOrd × Ordering)) (d : DOrd) : Option Ordering := tbl.lookup d

theorem pick3_cmpNat (x y : Nat) (lt eq gt : DOrd) :
    pick3 (cmpNat x y) lt eq gt = if x < y then lt else if x = y then eq else gt := by
  unfold cmpNat pick3
  by_cases h : x < y
  · simp only [h, if_true]
  · by_cases h2 : y < x
    · have h3 : x ≠ y := by omega
      simp only [h, h2, h3, if_true, if_false]
    · have h3 : x = y := by omega
      subst h3
      simp only [Nat.lt_irrefl, if_false, if_true]

end Statime.CmpGen
