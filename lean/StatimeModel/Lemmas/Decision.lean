import StatimeModel.Lemmas.Roles
import StatimeModel.Lemmas.Receive
/-
The state decision read backwards (`Decides`, `recommend_cases`: each result of `recommend` with the tests that lead to
it), then the decision applied to one port (`set_recommended_state`, `port/bmca.rs`): a port that is Faulty, or already
where the decision sends it, stays (`PortStays`); any other goes to `portTarget` (`portMove_cases`, exact both ways).
`setRecommendedPortState_cases` and `setRecommendedState_cases` say what the two functions around `portMove` add
(`Writes`: what goes into the data sets); `Decided` names what the rest of the development uses of a decision.
-/
namespace Statime

theorem compareD0Best_worse {d0 : CmpDS} {e : Option Best} {g : Best} (h : compareD0Best d0 e = .worse g) : e = some g := by
  cases e with
  | none => cases h
  | some b =>
    unfold compareD0Best at h
    dsimp only at h
    split at h <;> cases h
    rfl

theorem compareGlobalAndPort_cases (g p : Best) :
    (g = p ∧ compareGlobalAndPort g p = .s1 g.ann) ∨ compareGlobalAndPort g p = .m3 g.ann ∨
      compareGlobalAndPort g p = .p2 p.ann := by
  unfold compareGlobalAndPort
  by_cases hgp : g = p
  · exact .inl ⟨hgp, if_pos hgp⟩
  · rw [if_neg hgp]
    split
    · exact .inr (.inr rfl)
    · exact .inr (.inl rfl)

/-- Figure 33 read backwards: every way `recommend own ebest er l` arrives at a decision, with what was tested on the
way (the clock class of `own`; `own` against Erbest below class 128, against Ebest otherwise) -/
inductive Decides (own : DefaultDS) (ebest er : Option Best) : Recommended → Prop
  | m1 (low : 1 ≤ own.quality.clockClass ∧ own.quality.clockClass ≤ 127)
      (best : ∀ p, compareD0Best (CmpDS.ofOwn own) er ≠ .worse p) : Decides own ebest er (.m1 own)
  | p1 {p : Best} (low : 1 ≤ own.quality.clockClass ∧ own.quality.clockClass ≤ 127)
      (worse : compareD0Best (CmpDS.ofOwn own) er = .worse p) : Decides own ebest er (.p1 p.ann)
  | m2 (high : ¬ (1 ≤ own.quality.clockClass ∧ own.quality.clockClass ≤ 127))
      (best : ∀ g, compareD0Best (CmpDS.ofOwn own) ebest ≠ .worse g) : Decides own ebest er (.m2 own)
  | s1 {g : Best} (high : ¬ (1 ≤ own.quality.clockClass ∧ own.quality.clockClass ≤ 127))
      (worse : compareD0Best (CmpDS.ofOwn own) ebest = .worse g) (here : er = some g) : Decides own ebest er (.s1 g.ann)
  | m3 {g : Best} (high : ¬ (1 ≤ own.quality.clockClass ∧ own.quality.clockClass ≤ 127))
      (worse : compareD0Best (CmpDS.ofOwn own) ebest = .worse g) : Decides own ebest er (.m3 g.ann)
  | p2 {g p : Best} (high : ¬ (1 ≤ own.quality.clockClass ∧ own.quality.clockClass ≤ 127))
      (worse : compareD0Best (CmpDS.ofOwn own) ebest = .worse g) (here : er = some p) : Decides own ebest er (.p2 p.ann)

/-- the only place that opens `recommendLow` and `recommendHigh` for a given result -/
theorem recommend_cases {own : DefaultDS} {ebest er : Option Best} {l : Bool} {r : Recommended}
    (h : recommend own ebest er l = some r) : Decides own ebest er r := by
  unfold recommend at h
  split at h
  · cases h
  · split at h <;> cases h
    · next low =>
      unfold recommendLow
      cases hc : compareD0Best (CmpDS.ofOwn own) er with
      | better | same => exact .m1 low fun p e => nomatch hc.symm.trans e
      | worse p => exact .p1 low hc
    · next high =>
      unfold recommendHigh
      cases hc : compareD0Best (CmpDS.ofOwn own) ebest with
      | better | same => exact .m2 high fun g e => nomatch hc.symm.trans e
      | worse g =>
        cases er with
        | none => exact .m3 high hc
        | some p =>
          show Decides own ebest (some p) (compareGlobalAndPort g p)
          rcases compareGlobalAndPort_cases g p with ⟨hgp, e⟩ | e | e <;> rw [e]
          · exact .s1 high hc (congrArg some hgp.symm)
          · exact .m3 high hc
          · exact .p2 high hc rfl

theorem recommend_eq_none {own : DefaultDS} {e er : Option Best} {l : Bool} (h : recommend own e er l = none) :
    er = none ∧ l = true := by
  unfold recommend at h
  split at h
  · next hh => exact ⟨Option.isNone_iff_eq_none.1 (Bool.and_eq_true_iff.1 hh).1, (Bool.and_eq_true_iff.1 hh).2⟩
  · split at h <;> cases h

/-- how a decision may change the state of a port: not at all, to a state that is not Slave, or to Slave with nothing
measured yet -/
def FreshOrSame (st st' : PState) : Prop :=
  st' = st ∨ st'.isSlave = false ∨ ∃ r, st' = .slave r .empty .empty none

/-- where a decision M1, M2 or M3 sends a port, on a slave-only instance and on a port disabled by the multiport rule:
the new state and the pending timer actions (`none`: left as they are) -/
def masterTarget (slaveOnly disabled : Bool) : PState × Option (List Out) :=
  if slaveOnly then (.listening, some [.reset .receipt .rand])
  else if disabled then (.passive, none)
  else (.master, some [.reset .announce (.exact 0), .reset .sync (.exact 0)])

def portTarget (p : Port) (r : Recommended) (d : DefaultDS) : PState × Option (List Out) :=
  match r with
  | .s1 a => (.slave a.hdr.src .empty .empty none, some [.reset .receipt .rand, .reset .delay (.exact 0)])
  | .p1 _ | .p2 _ => (.passive, none)
  | .m1 _ | .m2 _ | .m3 _ => masterTarget d.slaveOnly p.multiportDisable.isSome

/-- a port in state `st` is where the decision sends it: in that state, or (a Slave) bound to that master already -/
def PState.isAt (st tgt : PState) : Prop :=
  match st, tgt with
  | .slave a _ _ _, .slave b _ _ _ => a = b
  | _, _ => st = tgt

theorem PState.isAt_slave {st : PState} {b : PortId} {sy : SyncSt} {dl : DelaySt} {l : Option Int} :
    st.isAt (.slave b sy dl l) ↔ ∃ sy' dl' l', st = .slave b sy' dl' l' := by
  constructor
  · intro h
    cases st with
    | slave a sy' dl' l' => exact ⟨sy', dl', l', (h : a = b) ▸ rfl⟩
    | _ => exact nomatch h
  · rintro ⟨_, _, _, rfl⟩
    exact (rfl : b = b)

theorem PState.isAt_iff {st tgt : PState} (h : tgt.isSlave = false) : st.isAt tgt ↔ st = tgt := by
  cases tgt with
  | slave => cases h
  | _ => cases st <;> exact Iff.rfl

def PortStays (p : Port) (r : Recommended) (d : DefaultDS) : Prop := p.st = .faulty ∨ p.st.isAt (portTarget p r d).1

theorem stays_of_eq {st tgt : PState} (ht : tgt.isSlave = false) (he : st = tgt) : st = .faulty ∨ st.isAt tgt :=
  .inr ((PState.isAt_iff ht).2 he)

theorem goes_of_ne {st tgt : PState} (ht : tgt.isSlave = false) (hn : st ≠ tgt) (hf : st ≠ .faulty) :
    ¬ (st = .faulty ∨ st.isAt tgt) :=
  not_or.2 ⟨hf, fun h => hn ((PState.isAt_iff ht).1 h)⟩

/-- `portMove_cases` for M1; M2 and M3 are the same arm of `portMove` and of `portTarget` -/
theorem portMove_cases_m1 (p : Port) (x d : DefaultDS) :
    (portMove p (.m1 x) d = none ∧ PortStays p (.m1 x) d) ∨
    (portMove p (.m1 x) d = some (portTarget p (.m1 x) d) ∧ ¬ PortStays p (.m1 x) d) := by
  unfold PortStays
  simp only [portMove, portTarget, masterTarget]
  -- each condition stands twice in the goal, in `portMove` and in `masterTarget`; `split` on it is several times dearer
  by_cases hso : d.slaveOnly = true
  · rw [if_pos hso, if_pos hso]
    split
    · next hst => exact .inl ⟨rfl, stays_of_eq rfl hst⟩
    · next hst => exact .inl ⟨rfl, .inl hst⟩
    · next hl hf => exact .inr ⟨rfl, goes_of_ne rfl hl hf⟩
  · rw [if_neg hso, if_neg hso]
    by_cases hmp : p.multiportDisable.isSome = true
    · rw [if_pos hmp, if_pos hmp]
      split
      · next hc => exact .inr ⟨rfl, goes_of_ne rfl hc.1 hc.2⟩
      · next hc =>
        refine .inl ⟨rfl, ?_⟩
        by_cases hp : p.st = .passive
        · exact stays_of_eq rfl hp
        · exact .inl (Decidable.not_not.1 fun hf => hc ⟨hp, hf⟩)
    · rw [if_neg hmp, if_neg hmp]
      split
      · next hst => exact .inl ⟨rfl, stays_of_eq rfl hst⟩
      · next hst => exact .inl ⟨rfl, .inl hst⟩
      · next hm hf => exact .inr ⟨rfl, goes_of_ne rfl hm hf⟩

theorem portMove_cases (p : Port) (r : Recommended) (d : DefaultDS) :
    (portMove p r d = none ∧ PortStays p r d) ∨ (portMove p r d = some (portTarget p r d) ∧ ¬ PortStays p r d) := by
  cases r with
  | m1 x => exact portMove_cases_m1 p x d
  | m2 x => exact portMove_cases_m1 p x d
  | m3 _ => exact portMove_cases_m1 p d d
  | s1 a =>
    unfold PortStays
    simp only [portMove, portTarget]
    split
    · next hst => exact .inl ⟨rfl, .inl hst⟩
    · next old _ _ _ hst =>
      split
      · next hne =>
        refine .inr ⟨rfl, not_or.2 ⟨hst ▸ (fun h => nomatch h), fun h => ?_⟩⟩
        obtain ⟨_, _, _, e⟩ := PState.isAt_slave.1 h
        exact hne (PState.slave.inj (hst.symm.trans e)).1
      · next he => exact .inl ⟨rfl, .inr (PState.isAt_slave.2 ⟨_, _, _, Decidable.not_not.1 he ▸ hst⟩)⟩
    · next hf hs =>
      refine .inr ⟨rfl, not_or.2 ⟨hf, fun h => ?_⟩⟩
      obtain ⟨_, _, _, e⟩ := PState.isAt_slave.1 h
      exact hs _ _ _ _ e
  | p1 | p2 =>
    unfold PortStays
    simp only [portMove, portTarget]
    split
    · next hst => exact .inl ⟨rfl, stays_of_eq rfl hst⟩
    · next hst => exact .inl ⟨rfl, .inl hst⟩
    · next hp hf => exact .inr ⟨rfl, goes_of_ne rfl hp hf⟩

theorem portMove_of_stays {p : Port} {r : Recommended} {d : DefaultDS} (h : PortStays p r d) : portMove p r d = none :=
  (portMove_cases p r d).elim And.left fun h' => absurd h h'.2

theorem portMove_of_not_stays {p : Port} {r : Recommended} {d : DefaultDS} (h : ¬ PortStays p r d) :
    portMove p r d = some (portTarget p r d) :=
  (portMove_cases p r d).elim (fun h' => absurd h'.2 h) And.left

theorem masterTarget_not_slave (so mp : Bool) : (masterTarget so mp).1.isSlave = false := by
  cases so <;> cases mp <;> rfl

theorem portTarget_fresh (p : Port) (r : Recommended) (d : DefaultDS) (st : PState) :
    FreshOrSame st (portTarget p r d).1 := by
  cases r with
  | s1 a => exact .inr (.inr ⟨_, rfl⟩)
  | p1 | p2 => exact .inr (.inl rfl)
  | m1 | m2 | m3 => exact .inr (.inl (masterTarget_not_slave _ _))

theorem portTarget_slave {p : Port} {r : Recommended} {d : DefaultDS} (h : (portTarget p r d).1.isSlave = true) :
    ∃ a, r = .s1 a := by
  cases r with
  | s1 a => exact ⟨a, rfl⟩
  | p1 | p2 => cases h
  | m1 | m2 | m3 => exact absurd ((masterTarget_not_slave _ _).symm.trans h) Bool.false_ne_true

theorem portTarget_not_master {p : Port} {r : Recommended} {d : DefaultDS} (hso : d.slaveOnly = true) :
    (portTarget p r d).1 ≠ .master := by
  cases r with
  | s1 | p1 | p2 => exact fun h => nomatch h
  | m1 | m2 | m3 =>
    show (masterTarget d.slaveOnly _).1 ≠ .master
    rw [hso]
    exact fun h => nomatch h

theorem masterTarget_resets {so mp : Bool} {l : List Out} (hl : (masterTarget so mp).2 = some l) :
    ∀ o ∈ l, ∃ k dd, o = Out.reset k dd := by
  cases so <;> cases mp <;> cases hl
  · exact List.forall_mem_cons.2 ⟨⟨_, _, rfl⟩, fun o ho => ⟨_, _, List.mem_singleton.1 ho⟩⟩
  · exact fun o ho => ⟨_, _, List.mem_singleton.1 ho⟩
  · exact fun o ho => ⟨_, _, List.mem_singleton.1 ho⟩

theorem portTarget_resets {p : Port} {r : Recommended} {d : DefaultDS} {l : List Out} (hl : (portTarget p r d).2 = some l) :
    ∀ o ∈ l, ∃ k dd, o = Out.reset k dd := by
  cases r with
  | s1 a =>
    cases hl
    exact List.forall_mem_cons.2 ⟨⟨_, _, rfl⟩, fun o ho => ⟨_, _, List.mem_singleton.1 ho⟩⟩
  | p1 | p2 => cases hl
  | m1 | m2 | m3 => exact masterTarget_resets hl

theorem PortStays.kind {p : Port} {r : Recommended} {d : DefaultDS} (h : PortStays p r d) :
    p.st = .faulty ∨ p.st = (portTarget p r d).1 ∨ (p.st.isSlave = true ∧ (portTarget p r d).1.isSlave = true) := by
  refine h.imp_right fun h => ?_
  cases ht : (portTarget p r d).1 with
  | slave b sy dl l =>
    rw [ht] at h
    obtain ⟨_, _, _, e⟩ := PState.isAt_slave.1 h
    exact .inr ⟨by rw [e]; rfl, rfl⟩
  | _ =>
    rw [ht] at h
    exact .inl ((PState.isAt_iff rfl).1 h)

/-- the port, the events and the pending timer actions `set_recommended_port_state` returns: the port `stays`, or
`moves` where the decision sends it -/
inductive StaysOrMoves (p : Port) (r : Recommended) (d : DefaultDS) : Port → List Out → Option (List Out) → Prop
  | stays (h : PortStays p r d) : StaysOrMoves p r d p [] none
  | moves (h : ¬ PortStays p r d) :
      StaysOrMoves p r d (p.setState (portTarget p r d).1).1 (p.setState (portTarget p r d).1).2 (portTarget p r d).2

/-- `set_recommended_port_state`: the debug assertion on master-only ports, then stay or go where the decision sends -/
theorem setRecommendedPortState_cases {p p1 : Port} {r : Recommended} {d : DefaultDS} {e : List Out}
    {pd : Option (List Out)} (h : p.setRecommendedPortState r d = .ok (p1, e, pd)) :
    (r.isS1 = true → p.cfg.masterOnly = false) ∧ StaysOrMoves p r d p1 e pd := by
  unfold Port.setRecommendedPortState at h
  split at h
  · cases h
  · next hmo =>
    refine ⟨fun hr => Bool.eq_false_iff.2 fun hm => hmo ⟨hr, hm⟩, ?_⟩
    rcases portMove_cases p r d with ⟨hn, hs⟩ | ⟨hn, hs⟩ <;> rw [hn] at h <;> cases h
    · exact .stays hs
    · exact .moves hs

/-- what no part of a BMCA run changes about a port -/
structure Fixed (p p' : Port) : Prop where
  id : p'.id = p.id
  cfg : p'.cfg = p.cfg
  own : p'.fml.own = p.fml.own
  seqs : p'.seqs = p.seqs
  peer : p'.peer = p.peer
  meanDelay : p'.meanDelay = p.meanDelay

theorem Fixed.refl (p : Port) : Fixed p p := ⟨rfl, rfl, rfl, rfl, rfl, rfl⟩

theorem Fixed.trans {a b c : Port} (h1 : Fixed a b) (h2 : Fixed b c) : Fixed a c :=
  ⟨h2.id.trans h1.id, h2.cfg.trans h1.cfg, h2.own.trans h1.own, h2.seqs.trans h1.seqs,
    h2.peer.trans h1.peer, h2.meanDelay.trans h1.meanDelay⟩

/-- what decision `r`, applied under the default data set `d`, leaves of port `p` and means for the state of its
successor `p1`; `e` are the events and `pd` the pending timer actions it hands out -/
structure Decided (p : Port) (r : Recommended) (d : DefaultDS) (p1 : Port) (e : List Out) (pd : Option (List Out)) : Prop
    extends Fixed p p1 where
  fresh : FreshOrSame p.st p1.st
  slave : p1.st.isSlave = true → ∃ a, r = .s1 a
  faulty : p.st = .faulty → p1.st = .faulty
  notMasterOnly : r.isS1 = true → p.cfg.masterOnly = false
  notMaster : d.slaveOnly = true → p1.st ≠ .master
  events : ∀ o ∈ e, o.plain
  pending : ∀ l, pd = some l → ∀ o ∈ l, o.plain

theorem setRecommendedPortState_decided {p p1 : Port} {r : Recommended} {d : DefaultDS} {e : List Out}
    {pd : Option (List Out)} (h : p.setRecommendedPortState r d = .ok (p1, e, pd)) : Decided p r d p1 e pd := by
  obtain ⟨hmo, hc⟩ := setRecommendedPortState_cases h
  cases hc with
  | stays hs =>
    refine { Fixed.refl p with
      fresh := .inl rfl, slave := fun hsl => ?_, faulty := id, notMasterOnly := hmo, notMaster := fun hso hm => ?_,
      events := (fun _ ho => nomatch ho), pending := (fun _ hl => nomatch hl) }
    · rcases hs.kind with e | e | ⟨_, e⟩
      · rw [e] at hsl; cases hsl
      · exact portTarget_slave (e ▸ hsl)
      · exact portTarget_slave e
    · rcases hs.kind with e | e | ⟨e, _⟩
      · rw [e] at hm; cases hm
      · exact portTarget_not_master hso (e.symm.trans hm)
      · rw [hm] at e; cases e
  | moves hs =>
    exact {
      id := rfl, cfg := rfl, own := rfl, seqs := rfl, peer := rfl, meanDelay := rfl,
      fresh := portTarget_fresh p r d p.st, slave := portTarget_slave, faulty := fun hf => absurd (.inl hf) hs,
      notMasterOnly := hmo, notMaster := portTarget_not_master, events := setState_plain p _,
      pending := fun l hl o ho => by obtain ⟨k, dd, rfl⟩ := portTarget_resets hl o ho; trivial }

/-- the data sets of a clock that is its own grandmaster -/
def InstState.withOwn (s : InstState) (d : DefaultDS) : InstState :=
  { s with stepsRemoved := 0,
           parent := { parentPort := ⟨d.clockIdentity, 0⟩, gmIdentity := d.clockIdentity,
                       gmQuality := d.quality, gmP1 := d.p1, gmP2 := d.p2 },
           tp := defaultTimeProps, pathTrace := [] }

/-- what a decision writes to the data sets, and the event that reports it: S1 the Announce of the new parent,
M1 and M2 the own attributes, the others nothing -/
inductive Writes (s : InstState) : Recommended → InstState → List Out → Prop
  | s1 {a : Ann} {s1 : InstState} : s.applyParentS1 a = .ok s1 → Writes s (.s1 a) s1 [.props s1.tp]
  | m1 (d : DefaultDS) : Writes s (.m1 d) (s.withOwn d) []
  | m2 (d : DefaultDS) : Writes s (.m2 d) (s.withOwn d) []
  | m3 (a : Ann) : Writes s (.m3 a) s []
  | p1 (a : Ann) : Writes s (.p1 a) s []
  | p2 (a : Ann) : Writes s (.p2 a) s []

theorem Writes.dflt {s s1 : InstState} {r : Recommended} {t : List Out} (h : Writes s r s1 t) : s1.dflt = s.dflt := by
  cases h with
  | s1 ha => rw [(applyParentS1_ok ha).2]; rfl
  | m1 | m2 | m3 | p1 | p2 => rfl

theorem Writes.plain {s s1 : InstState} {r : Recommended} {t : List Out} (h : Writes s r s1 t) : ∀ o ∈ t, o.plain := by
  cases h with
  | s1 => exact fun o ho => List.mem_singleton.1 ho ▸ trivial
  | m1 | m2 | m3 | p1 | p2 => exact fun _ ho => nomatch ho

/-- `set_recommended_state`: the port half, then what the decision writes into the data sets -/
theorem setRecommendedState_cases {p p1 : Port} {r : Recommended} {s s1 : InstState} {e : List Out}
    {pd : Option (List Out)} (h : p.setRecommendedState r s = .ok (p1, s1, e, pd)) :
    ∃ ev t, p.setRecommendedPortState r s.dflt = .ok (p1, ev, pd) ∧ e = ev ++ t ∧ Writes s r s1 t := by
  unfold Port.setRecommendedState at h
  obtain ⟨⟨pp, ev, pend⟩, hv, h⟩ := bindR_ok _ _ _ h
  cases r with
  | m1 d => cases h; exact ⟨_, [], hv, (List.append_nil _).symm, .m1 d⟩
  | m2 d => cases h; exact ⟨_, [], hv, (List.append_nil _).symm, .m2 d⟩
  | m3 a => cases h; exact ⟨_, [], hv, (List.append_nil _).symm, .m3 a⟩
  | p1 a => cases h; exact ⟨_, [], hv, (List.append_nil _).symm, .p1 a⟩
  | p2 a => cases h; exact ⟨_, [], hv, (List.append_nil _).symm, .p2 a⟩
  | s1 a =>
    obtain ⟨s2, ha, h⟩ := bindR_ok _ _ _ h
    cases h
    exact ⟨_, _, hv, rfl, .s1 ha⟩

theorem setRecommendedState_writes {p p1 : Port} {r : Recommended} {s s1 : InstState} {e : List Out}
    {pd : Option (List Out)} (h : p.setRecommendedState r s = .ok (p1, s1, e, pd)) : ∃ t, Writes s r s1 t :=
  let ⟨_, t, _, _, hw⟩ := setRecommendedState_cases h
  ⟨t, hw⟩

theorem setRecommendedState_dflt {p p1 : Port} {r : Recommended} {s s1 : InstState} {e : List Out}
    {pd : Option (List Out)} (h : p.setRecommendedState r s = .ok (p1, s1, e, pd)) : s1.dflt = s.dflt :=
  let ⟨_, hw⟩ := setRecommendedState_writes h
  hw.dflt

theorem setRecommendedState_decided {p p1 : Port} {r : Recommended} {s s1 : InstState} {e : List Out}
    {pd : Option (List Out)} (h : p.setRecommendedState r s = .ok (p1, s1, e, pd)) : Decided p r s.dflt p1 e pd := by
  obtain ⟨ev, t, hv, rfl, hw⟩ := setRecommendedState_cases h
  have dd := setRecommendedPortState_decided hv
  exact { dd with events := fun o ho => (List.mem_append.1 ho).elim (dd.events o) (hw.plain o) }

theorem setRecommendedPortState_error {p : Port} {r : Recommended} {d : DefaultDS} {e : Panic}
    (h : p.setRecommendedPortState r d = .error e) : e = .assertDbg := by
  unfold Port.setRecommendedPortState at h
  split at h
  · cases h; rfl
  · split at h <;> cases h

/-- `set_recommended_state` fails only by the debug assertion on master-only ports or the `+ 1` on stepsRemoved -/
theorem setRecommendedState_error {p : Port} {r : Recommended} {s : InstState} {e : Panic}
    (h : p.setRecommendedState r s = .error e) : e = .assertDbg ∨ e = .overflow := by
  unfold Port.setRecommendedState at h
  refine FailsOnly.bind (P := fun e => e = .assertDbg ∨ e = .overflow)
    (fun _ he => .inl (setRecommendedPortState_error he)) (fun v => ?_) e h
  cases r with
  | m1 | m2 | m3 | p1 | p2 => exact .ok _
  | s1 a =>
    refine FailsOnly.bind (fun e' he => .inr ?_) (fun _ => .ok _)
    unfold InstState.applyParentS1 at he
    split at he
    · exact (Except.error.inj he).symm
    · cases he

end Statime
