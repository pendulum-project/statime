import StatimeModel.Model.Exporter
/-
The exporter's request loop (Model/Exporter.lean). The one notion the C20 theorems turn on: a request stream is
*settled* once its first `CAP` octets hold an end of headers, or it has `CAP` octets without one; from then on neither
`verdict` nor `serve` looks further.
-/
namespace Statime.Exporter

theorem startsWithTerm_append {a : List UInt8} (b : List UInt8) (h : startsWithTerm a = true) :
    startsWithTerm (a ++ b) = true := by
  match a, h with
  | _ :: _ :: _ :: _ :: _, h => exact h

theorem hasTerm_append {a : List UInt8} (b : List UInt8) (h : hasTerm a = true) : hasTerm (a ++ b) = true := by
  induction a with
  | nil => cases h
  | cons x xs ih =>
    rw [hasTerm, Bool.or_eq_true] at h
    rw [List.cons_append, hasTerm, Bool.or_eq_true]
    exact h.imp (startsWithTerm_append (a := x :: xs) b) ih

theorem hasTerm_length {a : List UInt8} (h : hasTerm a = true) : 4 ≤ a.length := by
  induction a with
  | nil => cases h
  | cons x xs ih =>
    rw [hasTerm, Bool.or_eq_true] at h
    rcases h with h | h
    · match xs, h with
      | _ :: _ :: _ :: _, _ => exact Nat.le_add_left 4 _
    · exact Nat.le_succ_of_le (ih h)

theorem isGet_append {a : List UInt8} (b : List UInt8) (h : 4 ≤ a.length) : isGet (a ++ b) = isGet a := by
  rcases a with _ | ⟨_, _ | ⟨_, _ | ⟨_, _ | ⟨_, _⟩⟩⟩⟩
  case cons.cons.cons.cons => rfl
  all_goals exact absurd h (by simp)

def settled (x : List UInt8) : Bool := hasTerm (x.take CAP) || decide (CAP ≤ x.length)

theorem settled_eq_false {x : List UInt8} : settled x = false ↔ hasTerm x = false ∧ x.length < CAP := by
  rw [settled, Bool.or_eq_false_iff, decide_eq_false_iff_not, Nat.not_le]
  constructor
  · intro ⟨h, hl⟩; rw [List.take_of_length_le (Nat.le_of_lt hl)] at h; exact ⟨h, hl⟩
  · intro ⟨h, hl⟩; rw [List.take_of_length_le (Nat.le_of_lt hl)]; exact ⟨h, hl⟩

theorem verdict_eq (x : List UInt8) (o : Obs) :
    verdict x o = if hasTerm (x.take CAP) then (if isGet (x.take CAP) then respond o else .dropped) else .dropped := rfl

theorem verdict_of_not_settled {x : List UInt8} (o : Obs) (h : settled x = false) : verdict x o = .dropped := by
  rw [settled, Bool.or_eq_false_iff] at h
  rw [verdict_eq, h.1]; rfl

theorem verdict_append {x : List UInt8} (y : List UInt8) (o : Obs) (h : settled x = true) :
    verdict (x ++ y) o = verdict x o := by
  rw [settled, Bool.or_eq_true, decide_eq_true_iff] at h
  rw [verdict_eq, verdict_eq, List.take_append]
  rcases h with h | h
  · rw [hasTerm_append _ h, h, isGet_append _ (hasTerm_length h)]
  · rw [Nat.sub_eq_zero_of_le h, List.take_zero, List.append_nil]

theorem respond_ne_waiting (o : Obs) : respond o ≠ .waiting := by
  cases o <;> exact fun h => nomatch h

theorem serve_data_raw (acc : List UInt8) {bs : List UInt8} (rest : List Rd) (o : Obs) (hb : bs ≠ []) :
    serve acc (.data bs :: rest) o =
      if hasTerm (acc ++ bs.take (CAP - acc.length)) then
        (if isGet (acc ++ bs.take (CAP - acc.length)) then respond o else .dropped)
      else if CAP ≤ (acc ++ bs.take (CAP - acc.length)).length then .dropped
      else serve (acc ++ bs.take (CAP - acc.length)) rest o := by
  cases bs with
  | nil => exact absurd rfl hb
  | cons => rfl

/-- while the buffer is not over-full it holds the first `CAP` octets of what has arrived, and `serve`
answers as soon as that is settled -/
theorem serve_data {acc bs : List UInt8} (rest : List Rd) (o : Obs) (hb : bs ≠ []) (ha : acc.length ≤ CAP) :
    serve acc (.data bs :: rest) o =
      if settled (acc ++ bs) then verdict (acc ++ bs) o else serve (acc ++ bs) rest o := by
  have hw : acc ++ bs.take (CAP - acc.length) = (acc ++ bs).take CAP := by
    rw [List.take_append, List.take_of_length_le ha]
  have hl : CAP ≤ ((acc ++ bs).take CAP).length ↔ CAP ≤ (acc ++ bs).length := by
    rw [List.length_take, Nat.le_min]; exact ⟨And.right, fun h => ⟨Nat.le_refl _, h⟩⟩
  rw [serve_data_raw acc rest o hb, hw, settled, verdict_eq]
  cases hasTerm ((acc ++ bs).take CAP)
  · by_cases hc : CAP ≤ (acc ++ bs).length
    · rw [if_neg Bool.false_ne_true, if_pos (hl.2 hc), decide_eq_true hc]; rfl
    · rw [if_neg Bool.false_ne_true, if_neg (mt hl.1 hc), decide_eq_false hc,
        List.take_of_length_le (Nat.le_of_not_le hc)]; rfl
  · rfl

theorem serve_cons_waiting {acc : List UInt8} {r : Rd} {rest : List Rd} {o : Obs}
    (h : serve acc (r :: rest) o = .waiting) :
    (∃ bs, r = .data bs ∧ bs ≠ []) ∧ ∃ acc', serve acc' rest o = .waiting := by
  cases r with
  | eof => cases h
  | err => cases h
  | data bs =>
    have hb : bs ≠ [] := by rintro rfl; cases h
    refine ⟨⟨bs, rfl, hb⟩, acc ++ bs.take (CAP - acc.length), ?_⟩
    rw [serve_data_raw acc rest o hb] at h
    by_cases ht : hasTerm (acc ++ bs.take (CAP - acc.length)) = true
    · rw [if_pos ht] at h
      split at h
      · exact absurd h (respond_ne_waiting o)
      · cases h
    · rw [if_neg ht] at h
      split at h
      · cases h
      · exact h

/-- `hr`: a read that ends the stream (end of file, error, or no octets) -/
theorem serve_end (acc : List UInt8) {r : Rd} (tl : List Rd) (o : Obs) (hr : ∀ bs, r = .data bs → bs = []) :
    serve acc (r :: tl) o = .dropped := by
  cases r with
  | eof => rfl
  | err => rfl
  | data bs =>
    cases hr bs rfl
    rfl

theorem serve_chunks_end (chunks : List (List UInt8)) (o : Obs) {r : Rd} (tl : List Rd)
    (hr : ∀ bs, r = .data bs → bs = []) :
    ∀ acc, (∀ c ∈ chunks, c ≠ []) → hasTerm acc = false → acc.length < CAP →
      serve acc (chunks.map Rd.data ++ r :: tl) o = verdict (acc ++ chunks.flatten) o := by
  induction chunks with
  | nil =>
    intro acc _ hna hlen
    rw [List.flatten_nil, List.append_nil, verdict_of_not_settled o (settled_eq_false.2 ⟨hna, hlen⟩)]
    exact serve_end acc tl o hr
  | cons c rest ih =>
    intro acc hne _ hlen
    rw [List.map_cons, List.cons_append, List.flatten_cons, ← List.append_assoc,
      serve_data _ o (hne c List.mem_cons_self) (Nat.le_of_lt hlen)]
    -- either this read settles the request, and the rest of the stream no longer matters, or we go on
    cases hs : settled (acc ++ c)
    · have ⟨hna', hlen'⟩ := settled_eq_false.1 hs
      exact ih (acc ++ c) (fun x hx => hne x (List.mem_cons_of_mem _ hx)) hna' hlen'
    · exact (verdict_append _ o hs).symm

theorem run_cons_of_ne_waiting {c : Conn} (rest : List Conn) (h : serve [] c.1 c.2 ≠ .waiting) :
    run (c :: rest) = serve [] c.1 c.2 :: run rest := by
  rw [run]; split
  · contradiction
  · rfl

theorem run_append_of_finished (cs rest : List Conn) (h : ∀ c ∈ cs, serve [] c.1 c.2 ≠ .waiting) :
    run (cs ++ rest) = cs.map (fun c => serve [] c.1 c.2) ++ run rest := by
  induction cs with
  | nil => rfl
  | cons c cs ih =>
    rw [List.cons_append, run_cons_of_ne_waiting _ (h c List.mem_cons_self),
      ih fun x hx => h x (List.mem_cons_of_mem _ hx)]; rfl

end Statime.Exporter
