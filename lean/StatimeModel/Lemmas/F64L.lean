import StatimeModel.Model.F64
/-
Lemmas about the bit-level binary64 model. Everything about a value (NaN, finite, negation, absolute value, the
comparisons, the clamp) is said in terms of its key, so that facts about comparisons are linear arithmetic on keys;
rounding is "a nearest multiple", from which monotonicity follows whatever the tie rule.
-/
namespace Statime

-- `P63` stays a name below: nothing computes with 2^63, the facts are those of `%` and `/`

theorem P63_pos : 0 < P63 := by decide

theorem f64Mag_lt (b : Nat) : f64Mag b < P63 := Nat.mod_lt _ P63_pos

theorem f64Sign_le (b : Nat) : f64Sign b = 0 ∨ f64Sign b = 1 := Nat.mod_two_eq_zero_or_one _

theorem f64Mag_of_lt {m : Nat} (h : m < P63) : f64Mag m = m := Nat.mod_eq_of_lt h

theorem f64Sign_of_lt {m : Nat} (h : m < P63) : f64Sign m = 0 := by
  unfold f64Sign
  rw [Nat.div_eq_of_lt h]

theorem f64Neg_mag (b : Nat) : f64Mag (f64Neg b) = f64Mag b := by
  have h := f64Mag_lt b
  unfold f64Neg
  split
  · exact f64Mag_of_lt h
  · exact (Nat.add_mod_right ..).trans (f64Mag_of_lt h)

theorem f64Neg_sign (b : Nat) : f64Sign (f64Neg b) = 1 - f64Sign b := by
  have h := f64Mag_lt b
  unfold f64Neg
  split
  · rename_i s
    rw [s, f64Sign_of_lt h]
  · rename_i s
    rw [(f64Sign_le b).resolve_right s]
    unfold f64Sign
    rw [Nat.add_div_right _ P63_pos, Nat.div_eq_of_lt h]

theorem f64Key_natAbs (b : Nat) : (f64Key b).natAbs = f64Mag b := by
  unfold f64Key
  split
  · rw [Int.natAbs_neg, Int.natAbs_natCast]
  · exact Int.natAbs_natCast _

theorem f64Key_neg (b : Nat) : f64Key (f64Neg b) = - f64Key b := by
  unfold f64Key
  rw [f64Neg_sign, f64Neg_mag]
  rcases f64Sign_le b with h | h <;> rw [h] <;> simp

theorem f64Abs_key (b : Nat) : f64Key (f64Abs b) = (f64Mag b : Int) := by
  unfold f64Key f64Abs
  rw [f64Sign_of_lt (f64Mag_lt b), f64Mag_of_lt (f64Mag_lt b)]
  rfl

theorem f64Key_sign (b : Nat) : (f64Sign b = 0 ∧ 0 ≤ f64Key b) ∨ (f64Sign b = 1 ∧ f64Key b ≤ 0) := by
  unfold f64Key
  rcases f64Sign_le b with s | s <;> rw [s]
  · exact .inl ⟨rfl, Int.natCast_nonneg _⟩
  · exact .inr ⟨rfl, Int.neg_nonpos_of_nonneg (Int.natCast_nonneg _)⟩

theorem f64IsNaN_iff_key (b : Nat) : f64IsNaN b = false ↔ (f64Key b).natAbs ≤ F64INF := by
  rw [f64Key_natAbs]
  unfold f64IsNaN
  simp only [decide_eq_false_iff_not, Nat.not_lt]

theorem f64IsFinite_iff_key (b : Nat) : f64IsFinite b = true ↔ (f64Key b).natAbs < F64INF := by
  rw [f64Key_natAbs]
  unfold f64IsFinite
  simp only [decide_eq_true_eq]

theorem f64_finite_not_nan (b : Nat) (h : f64IsFinite b = true) : f64IsNaN b = false :=
  (f64IsNaN_iff_key b).2 (Nat.le_of_lt ((f64IsFinite_iff_key b).1 h))

theorem f64IsNaN_neg (b : Nat) : f64IsNaN (f64Neg b) = f64IsNaN b := by
  unfold f64IsNaN
  rw [f64Neg_mag]

theorem f64IsFinite_neg (b : Nat) : f64IsFinite (f64Neg b) = f64IsFinite b := by
  unfold f64IsFinite
  rw [f64Neg_mag]

theorem f64Abs_nan (b : Nat) : f64IsNaN (f64Abs b) = f64IsNaN b := by
  unfold f64IsNaN f64Abs
  rw [f64Mag_of_lt (f64Mag_lt b)]

theorem f64Abs_neg (b : Nat) : f64Abs (f64Neg b) = f64Abs b := by
  unfold f64Abs
  rw [f64Neg_mag]

theorem f64Lt_iff (a b : Nat) :
    f64Lt a b = true ↔ f64IsNaN a = false ∧ f64IsNaN b = false ∧ f64Key a < f64Key b := by
  unfold f64Lt
  cases f64IsNaN a <;> cases f64IsNaN b <;> simp

theorem f64Le_iff (a b : Nat) :
    f64Le a b = true ↔ f64IsNaN a = false ∧ f64IsNaN b = false ∧ f64Key a ≤ f64Key b := by
  unfold f64Le
  cases f64IsNaN a <;> cases f64IsNaN b <;> simp

theorem f64Lt_false_iff {a b : Nat} (ha : f64IsNaN a = false) (hb : f64IsNaN b = false) :
    f64Lt a b = false ↔ f64Key b ≤ f64Key a := by
  unfold f64Lt
  rw [ha, hb]
  simp only [Bool.not_false, Bool.true_and, decide_eq_false_iff_not, Int.not_lt]

theorem f64Lt_key {a b : Nat} (h : f64Lt a b = true) : f64Key a < f64Key b := ((f64Lt_iff a b).1 h).2.2

theorem f64Lt_trans (a b c : Nat) (h1 : f64Lt a b = true) (h2 : f64Lt b c = true) : f64Lt a c = true := by
  have a1 := (f64Lt_iff a b).mp h1
  have a2 := (f64Lt_iff b c).mp h2
  exact (f64Lt_iff a c).mpr ⟨a1.1, a2.2.1, Int.lt_trans a1.2.2 a2.2.2⟩

theorem f64Max_of_lt {a b : Nat} (h : f64Lt b a = true) : f64Max a b = a := by
  obtain ⟨hb, ha, hk⟩ := (f64Lt_iff b a).1 h
  unfold f64Max
  rw [ha, hb, (f64Lt_false_iff ha hb).2 (Int.le_of_lt hk)]
  rfl

theorem f64Clamp_cases {x lo hi r : Nat} (h : f64Clamp x lo hi = some r) :
    (f64Lt x lo = true ∧ r = lo) ∨ (f64Lt hi x = true ∧ r = hi) ∨
    (f64Lt x lo = false ∧ f64Lt hi x = false ∧ r = x) := by
  unfold f64Clamp at h
  split at h
  · rename_i hle
    cases h
    have kle := (f64Le_iff _ _).1 hle
    cases h1 : f64Lt x lo
    · rw [if_neg Bool.false_ne_true]
      cases h2 : f64Lt hi x
      · exact .inr (.inr ⟨rfl, rfl, if_neg Bool.false_ne_true⟩)
      · exact .inr (.inl ⟨rfl, if_pos rfl⟩)
    · -- the lower bound is returned: `hi < lo` is excluded by `lo <= hi`
      rw [if_pos rfl, (f64Lt_false_iff kle.2.1 kle.1).2 kle.2.2]
      exact .inl ⟨rfl, if_neg Bool.false_ne_true⟩
  · cases h

theorem f64Signum_sign (e : Nat) (hn : f64IsNaN e = false) : f64Sign (f64Signum e) = f64Sign e := by
  unfold f64Signum
  rw [hn, if_neg Bool.false_ne_true]
  rcases f64Sign_le e with s | s <;> rw [s] <;> decide

theorem f64Clamp_sign {x lo hi r : Nat} (h : f64Clamp x lo hi = some r) (hlo : f64Sign lo = 1) (hhi : f64Sign hi = 0) :
    f64Sign r = f64Sign x := by
  have := f64Key_sign x
  rcases f64Clamp_cases h with ⟨h1, rfl⟩ | ⟨h1, rfl⟩ | ⟨_, _, rfl⟩
  · -- key x < key lo ≤ 0
    have := f64Lt_key h1
    have := f64Key_sign r
    omega
  · -- 0 ≤ key hi < key x
    have := f64Lt_key h1
    have := f64Key_sign r
    omega
  · rfl

theorem rhe_near (n j : Nat) :
    (roundHalfEvenShift n (j+1) = n / 2^(j+1) ∧ n % 2^(j+1) ≤ 2^j) ∨
    (roundHalfEvenShift n (j+1) = n / 2^(j+1) + 1 ∧ 2^j ≤ n % 2^(j+1)) := by
  unfold roundHalfEvenShift
  rw [if_neg (Nat.succ_ne_zero j), Nat.pow_succ, Nat.mul_div_cancel _ Nat.two_pos]
  generalize n % (2 ^ j * 2) = r
  generalize 2 ^ j = h
  by_cases h1 : r < h
  · rw [if_pos h1]
    exact .inl ⟨rfl, Nat.le_of_lt h1⟩
  · rw [if_neg h1]
    by_cases h2 : r > h
    · rw [if_pos h2]
      exact .inr ⟨rfl, Nat.le_of_lt h2⟩
    · -- a tie: both ways are allowed
      have e : r = h := Nat.le_antisymm (Nat.le_of_not_lt h2) (Nat.le_of_not_lt h1)
      rw [if_neg h2]
      split
      · exact .inl ⟨rfl, Nat.le_of_eq e⟩
      · exact .inr ⟨rfl, Nat.le_of_eq e.symm⟩

/-- going down from `n = P q + r` while `r ≤ H` and up while `H ≤ r` stays within `H = P / 2`: `|n - P m| ≤ H` -/
theorem near_dist {P H q r n m : Nat} (e : P * q + r = n) (c : P = H * 2) (hr : r < P)
    (h : (m = q ∧ r ≤ H) ∨ (m = q + 1 ∧ H ≤ r)) : P * m ≤ n + H ∧ n ≤ P * m + H := by
  subst e
  rcases h with ⟨rfl, b⟩ | ⟨rfl, b⟩
  · exact ⟨Nat.le_trans (Nat.le_add_right _ r) (Nat.le_add_right _ H), Nat.add_le_add_left b _⟩
  · rw [Nat.mul_add, Nat.mul_one]
    omega

/-- multiples of `P = 2 H` within `H` of `n < n'` are in the same order, whatever happens at ties -/
theorem near_mono {P H m m' n n' : Nat} (c : P = H * 2) (a : P * m ≤ n + H) (b : n' ≤ P * m' + H) (h : n < n') :
    m ≤ m' := by
  have : P * m < P * (m' + 1) := calc
    P * m ≤ n + H := a
    _ < n' + H := Nat.add_lt_add_right h H
    _ ≤ P * m' + H + H := Nat.add_le_add_right b H
    _ = P * (m' + 1) := by rw [Nat.mul_add, Nat.mul_one, c, Nat.mul_two, Nat.add_assoc]
  exact Nat.le_of_lt_succ (Nat.lt_of_mul_lt_mul_left this)

theorem rhe_dist (n j : Nat) :
    2^(j+1) * roundHalfEvenShift n (j+1) ≤ n + 2^j ∧ n ≤ 2^(j+1) * roundHalfEvenShift n (j+1) + 2^j :=
  near_dist (Nat.div_add_mod n _) (Nat.pow_succ ..) (Nat.mod_lt n (Nat.two_pow_pos _)) (rhe_near n j)

theorem rhe_mono (n n' k : Nat) (h : n ≤ n') : roundHalfEvenShift n k ≤ roundHalfEvenShift n' k := by
  cases k with
  | zero => exact h
  | succ j =>
    rcases Nat.eq_or_lt_of_le h with rfl | hlt
    · exact Nat.le_refl _
    · exact near_mono (Nat.pow_succ ..) (rhe_dist n j).1 (rhe_dist n' j).2 hlt

theorem rhe_cases (n k : Nat) :
    roundHalfEvenShift n k = n / 2 ^ k ∨ roundHalfEvenShift n k = n / 2 ^ k + 1 ∨ (k = 0 ∧ roundHalfEvenShift n k = n) := by
  cases k with
  | zero => exact .inr (.inr ⟨rfl, rfl⟩)
  | succ j =>
    rcases rhe_near n j with h | h
    · exact .inl h.1
    · exact .inr (.inl h.1)

/-- the value with exponent field `e` lies in the binade `[2^52 · 2^(e-1), 2^52 · 2^e)` -/
theorem f64Scaled_lt (a : Nat) : f64Scaled a < P52 * 2 ^ (a / P52) := by
  have r := Nat.mod_lt a (by decide : 0 < P52)
  unfold f64Scaled
  generalize a / P52 = e at *
  cases e with
  | zero => simpa using r
  | succ e =>
    rw [if_neg (Nat.succ_ne_zero e), Nat.add_sub_cancel, Nat.pow_succ, Nat.mul_comm _ 2, ← Nat.mul_assoc]
    exact Nat.mul_lt_mul_of_pos_right (Nat.mul_two P52 ▸ Nat.add_lt_add_right r P52) (Nat.two_pow_pos e)

theorem f64Scaled_ge (b : Nat) (h : b / P52 ≠ 0) : P52 * 2 ^ (b / P52 - 1) ≤ f64Scaled b := by
  unfold f64Scaled
  rw [if_neg h]
  exact Nat.mul_le_mul_right _ (Nat.le_add_left ..)

theorem f64Scaled_mono (a b : Nat) (h : a ≤ b) : f64Scaled a ≤ f64Scaled b := by
  rcases Nat.lt_or_ge (a / P52) (b / P52) with hlt | hge
  · -- different binades
    have h1 := f64Scaled_lt a
    have h2 := f64Scaled_ge b (Nat.ne_of_gt (Nat.zero_lt_of_lt hlt))
    have he : a / P52 ≤ b / P52 - 1 := Nat.le_sub_one_of_lt hlt
    exact Nat.le_of_lt (Nat.lt_of_lt_of_le h1
      (Nat.le_trans (Nat.mul_le_mul_left _ (Nat.pow_le_pow_right (by decide) he)) h2))
  · -- same exponent field: the mantissa decides
    have he : a / P52 = b / P52 := Nat.le_antisymm (Nat.div_le_div_right h) hge
    have hm : a % P52 ≤ b % P52 := by
      refine Nat.le_of_add_le_add_left (a := P52 * (b / P52)) ?_
      rw [Nat.div_add_mod, ← he, Nat.div_add_mod]
      exact h
    unfold f64Scaled
    simp only [he]
    split
    · exact hm
    · exact Nat.mul_le_mul_right _ (Nat.add_le_add_right hm _)

theorem f64MagToFixed32_zero : f64MagToFixed32 0 = 0 := by
  unfold f64MagToFixed32
  decide +kernel

theorem f64MagToFixed32_mono (a b : Nat) (h : a ≤ b) : f64MagToFixed32 a ≤ f64MagToFixed32 b := by
  unfold f64MagToFixed32
  exact rhe_mono _ _ _ (f64Scaled_mono a b h)

theorem f64FixedSigned_mono (a b : Nat) (h : f64Key a ≤ f64Key b) : f64FixedSigned a ≤ f64FixedSigned b := by
  have mono : ∀ {x y : Nat}, (x : Int) ≤ y → ((f64MagToFixed32 x : Nat) : Int) ≤ (f64MagToFixed32 y : Nat) :=
    fun h => Int.ofNat_le.2 (f64MagToFixed32_mono _ _ (Int.ofNat_le.1 h))
  unfold f64Key at h
  unfold f64FixedSigned
  by_cases sa : f64Sign a = 1 <;> by_cases sb : f64Sign b = 1
  · rw [if_pos sa, if_pos sb] at h ⊢
    exact Int.neg_le_neg (mono (Int.le_of_neg_le_neg h))
  · rw [if_pos sa, if_neg sb]
    exact Int.le_trans (Int.neg_nonpos_of_nonneg (Int.natCast_nonneg _)) (Int.natCast_nonneg _)
  · -- only the zeros meet in the middle
    rw [if_neg sa, if_pos sb] at h ⊢
    obtain ⟨ea, eb⟩ : f64Mag a = 0 ∧ f64Mag b = 0 := by omega
    rw [ea, eb, f64MagToFixed32_zero]
    decide
  · rw [if_neg sa, if_neg sb] at h ⊢
    exact mono h

theorem f64FixedSigned_natAbs (x : Nat) : ((f64FixedSigned x).natAbs : Int) = f64FixedSigned (f64Abs x) := by
  unfold f64FixedSigned f64Abs
  rw [f64Sign_of_lt (f64Mag_lt x), f64Mag_of_lt (f64Mag_lt x)]
  split <;> simp

theorem f64ToFixed32_val (b : Nat) (v : Int) (h : f64ToFixed32 b = some v) :
    f64IsFinite b = true ∧ v = f64FixedSigned b ∧ inI128 v = true := by
  unfold f64ToFixed32 at h
  split at h
  · rename_i hf
    split at h
    · rename_i hi; cases h; exact ⟨hf, rfl, hi⟩
    · cases h
  · cases h

theorem durFromSeconds_some {b : Nat} {d : Int} (h : durFromSeconds b = some d) :
    f64IsFinite b = true ∧ d = f64FixedSigned b * (NS : Int) := by
  unfold durFromSeconds at h
  split at h
  · cases h
  · rename_i x hx
    obtain ⟨hf, ex, _⟩ := f64ToFixed32_val b x hx
    unfold durMulFix at h
    simp only at h
    split at h
    · cases h
      rw [← Int.mul_assoc, ex]
      exact ⟨hf, Int.mul_ediv_cancel _ (by decide)⟩
    · cases h

theorem durFromSeconds_mono (a b : Nat) (da db : Int) (ha : durFromSeconds a = some da) (hb : durFromSeconds b = some db)
    (h : f64Key a ≤ f64Key b) : da ≤ db := by
  obtain ⟨_, rfl⟩ := durFromSeconds_some ha
  obtain ⟨_, rfl⟩ := durFromSeconds_some hb
  exact Int.mul_le_mul_of_nonneg_right (f64FixedSigned_mono a b h) (by decide)

/-- decoding a normal number: biased exponent `e + 1`, significand `M` with the hidden bit -/
theorem f64Scaled_encode (e M : Nat) (lo : P52 ≤ M) (hi : M < 2 * P52) :
    f64Scaled ((e + 1) * P52 + (M - P52)) = M * 2 ^ e := by
  have hlt : M - P52 < P52 := Nat.sub_lt_left_of_lt_add lo (Nat.two_mul P52 ▸ hi)
  unfold f64Scaled
  rw [Nat.mul_comm, Nat.mul_add_div (by decide), Nat.mul_add_mod, Nat.div_eq_of_lt hlt, Nat.mod_eq_of_lt hlt]
  exact congrArg (· * 2 ^ e) (Nat.sub_add_cancel lo)

theorem shift_up (n L K : Nat) (hL : L ≤ K) (h1 : 2 ^ L ≤ n) (h2 : n < 2 ^ (L + 1)) :
    2 ^ K ≤ n * 2 ^ (K - L) ∧ n * 2 ^ (K - L) < 2 * 2 ^ K := by
  have hp : 2 ^ L * 2 ^ (K - L) = 2 ^ K := by rw [← Nat.pow_add, Nat.add_sub_cancel' hL]
  rw [← hp, ← Nat.mul_assoc, ← Nat.pow_succ']
  exact ⟨Nat.mul_le_mul_right _ h1, Nat.mul_lt_mul_of_pos_right h2 (Nat.two_pow_pos _)⟩

/-- below 2^53 the conversion `n · 2^-k -> binary64` is exact: the result, read as a multiple of 2^-1074, is `n · 2^(1074-k)` -/
theorem natFixedToF64_exact (k n : Nat) (hn : 0 < n) (hs : n < P53) (hk : k ≤ 1022) :
    f64Scaled (natFixedToF64 k n) = n * 2 ^ (1074 - k) := by
  have hn0 : n ≠ 0 := Nat.ne_of_gt hn
  have h1 := Nat.log2_self_le hn0
  have h2 := @Nat.lt_log2_self n
  have hL : Nat.log2 n ≤ 52 :=
    Nat.le_of_lt_succ ((Nat.pow_lt_pow_iff_right (by decide)).1 (Nat.lt_of_le_of_lt h1 hs))
  unfold natFixedToF64 bitLen
  rw [if_neg hn0, if_neg hn0]
  rw [if_pos (Nat.succ_le_succ hL)]
  generalize Nat.log2 n = L at *
  obtain ⟨lo, hi⟩ := shift_up n L 52 hL h1 h2
  have hk' : k ≤ L + 1022 := Nat.le_trans hk (Nat.le_add_left ..)
  -- the exponent field is `e + 1` with `e = L + 1022 - k`; the significand was shifted by `52 - L`
  have he : L + 1 + 1022 - k = (L + 1022 - k) + 1 := by rw [Nat.add_right_comm L 1 1022, Nat.sub_add_comm hk']
  have hx : 52 - L + (L + 1022 - k) = 1074 - k := by
    rw [← Nat.add_sub_assoc hk', ← Nat.add_assoc, Nat.sub_add_cancel hL]
  rw [he, Nat.succ_sub_succ 52 L, f64Scaled_encode _ _ lo hi, Nat.mul_assoc, ← Nat.pow_add, hx]

end Statime
