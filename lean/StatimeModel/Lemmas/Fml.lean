import StatimeModel.Lemmas.Order
import StatimeModel.Lemmas.TimeBasic
/-
The foreign master list (C06): what each operation does to the list of masters. Every operation but `register` only
drops records from an entry (`Shrinks`), and ages them; `register` appends the Announce to a shrunk entry or makes a new
entry for it. So a property of an entry that survives dropping records (`Hered`) is kept by the former (`tqList_all`,
`stepAge_all`), and needs one fact about the latter (`register_all`).
-/
namespace Statime

structure Shrinks (m' m : ForeignMaster) : Prop where
  id : m'.id = m.id
  sub : m'.recs.Sublist m.recs

def Hered (Q : ForeignMaster → Prop) : Prop := ∀ m m', Shrinks m' m → Q m → Q m'

theorem hered_recs (P : PortId → FRec → Prop) : Hered (fun m => ∀ r ∈ m.recs, P m.id r) :=
  fun _ _ hs h r hr => hs.id ▸ h r (hs.sub.subset hr)

theorem hered_length (n : Nat) : Hered (fun m => m.recs.length ≤ n) :=
  fun _ _ hs h => Nat.le_trans hs.sub.length_le h

theorem Hered.of_id {Q : ForeignMaster → Prop} (hQ : Hered Q) (p : PortId → Prop) : Hered (fun m => p m.id → Q m) :=
  fun m m' hs h hp => hQ m m' hs (h (hs.id ▸ hp))

theorem purge_shrinks (c : Int) (m : ForeignMaster) : Shrinks (m.purge c) m := ⟨rfl, List.filter_sublist⟩

theorem purge_age (c : Int) (m : ForeignMaster) : ∀ r ∈ (m.purge c).recs, r.age < c :=
  fun _ hr => of_decide_eq_true (List.mem_filter.1 hr).2

theorem purge_id (c : Int) (m : ForeignMaster) : (m.purge c).id = m.id := rfl

theorem register_shape (c : Int) (m : ForeignMaster) (a : Ann) (age : Int) :
    ∃ m0, Shrinks m0 m ∧ m.register c a age = ⟨m.id, m0.recs ++ [⟨a, age⟩]⟩ := by
  unfold ForeignMaster.register
  split
  · exact ⟨m.purge c, purge_shrinks c m, rfl⟩
  · exact ⟨⟨m.id, (m.purge c).recs.drop 1⟩, ⟨rfl, (List.drop_sublist 1 _).trans (purge_shrinks c m).sub⟩, rfl⟩

theorem register_id (c : Int) (m : ForeignMaster) (a : Ann) (age : Int) : (m.register c a age).id = m.id := by
  obtain ⟨_, _, e⟩ := register_shape c m a age
  rw [e]

theorem register_recs (c : Int) (m : ForeignMaster) (a : Ann) (age : Int) :
    ∀ r ∈ (m.register c a age).recs, r ∈ m.recs ∨ r = ⟨a, age⟩ := by
  obtain ⟨m0, hs, e⟩ := register_shape c m a age
  rw [e]
  exact fun r hr => (List.mem_append.1 hr).imp (fun h => hs.sub.subset h) List.mem_singleton.1

theorem register_length_le (c : Int) (m : ForeignMaster) (a : Ann) (age : Int) :
    (m.register c a age).recs.length ≤ m.recs.length + 1 := by
  obtain ⟨m0, hs, e⟩ := register_shape c m a age
  rw [e, List.length_append, List.length_singleton]
  exact Nat.succ_le_succ hs.sub.length_le

theorem register_of_fresh (c : Int) (m : ForeignMaster) (a : Ann) (age : Int) (h : ∀ x ∈ m.recs, x.age < c) :
    m.register c a age =
      ⟨m.id, (if m.recs.length < MAX_ANNOUNCE_MESSAGES then m.recs else m.recs.drop 1) ++ [⟨a, age⟩]⟩ := by
  have hp : (m.purge c).recs = m.recs := List.filter_eq_self.2 fun x hx => decide_eq_true (h x hx)
  unfold ForeignMaster.register
  rw [hp]
  split <;> rfl

/-- what `take_qualified_announce_messages` does to one master -/
def tq1 (m : ForeignMaster) : ForeignMaster × Option FRec :=
  if FM_THRESHOLD ≤ m.recs.length then (⟨m.id, m.recs.dropLast⟩, m.recs.getLast?) else (m, none)

theorem tq1_shrinks (m : ForeignMaster) : Shrinks (tq1 m).1 m := by
  unfold tq1
  split
  · exact ⟨rfl, List.dropLast_sublist _⟩
  · exact ⟨rfl, List.Sublist.refl _⟩

theorem tq1_taken (m : ForeignMaster) (r : FRec) (h : (tq1 m).2 = some r) :
    FM_THRESHOLD ≤ m.recs.length ∧ m.recs.getLast? = some r := by
  unfold tq1 at h
  split at h
  · exact ⟨‹_›, h⟩
  · cases h

theorem tqStep_eq (m : ForeignMaster) (acc : List ForeignMaster × List FRec) :
    tqStep m acc = ((tq1 m).1 :: acc.1, acc.2 ++ (tq1 m).2.toList) := by
  unfold tqStep tq1
  split
  · next h =>
    cases hl : m.recs.getLast? with
    | some r => rfl
    | none => rw [List.getLast?_eq_none_iff.1 hl] at h; cases h
  · rw [Option.toList_none, List.append_nil]

def aged (s : Int) (m : ForeignMaster) : ForeignMaster :=
  { m with recs := m.recs.map (fun (r : FRec) => { r with age := r.age + s }) }

theorem stepAge_eq (c s : Int) (m : ForeignMaster) : m.stepAge c s = (aged s m).purge c := rfl

theorem stepAge_mem (c s : Int) (m : ForeignMaster) (r : FRec) (hr : r ∈ (m.stepAge c s).recs) :
    ∃ r0 ∈ m.recs, r = { r0 with age := r0.age + s } ∧ r.age < c := by
  obtain ⟨hm, hc⟩ := List.mem_filter.1 hr
  obtain ⟨r0, hr0, rfl⟩ := List.mem_map.1 hm
  exact ⟨r0, hr0, rfl, of_decide_eq_true hc⟩

/-- sequence numbers count as new for half the range after the last stored one -/
theorem seqStale_eq_false (new last : Nat) : seqStale new last = false ↔ (new + 65536 - last) % 65536 < 32767 := by
  unfold seqStale SEQ_HALF
  rw [decide_eq_false_iff_not, Nat.not_le]

theorem seqStale_succ (last : Nat) : seqStale ((last + 1) % 65536) last = false :=
  (seqStale_eq_false _ _).2 (by omega)

theorem cutoff_congr (l l' : FML) (h : l'.interval = l.interval) : l'.cutoff = l.cutoff := by
  unfold FML.cutoff
  rw [h]

/-- what no operation on the list changes -/
structure SameParams (l' l : FML) : Prop where
  own : l'.own = l.own
  interval : l'.interval = l.interval

theorem SameParams.trans {l'' l' l : FML} (h' : SameParams l'' l') (h : SameParams l' l) : SameParams l'' l :=
  ⟨h'.own.trans h.own, h'.interval.trans h.interval⟩

theorem SameParams.cutoff {l' l : FML} (h : SameParams l' l) : l'.cutoff = l.cutoff :=
  cutoff_congr l l' h.interval

/-- the window is 4 announce intervals: an `i64` interval times 2^18 is far inside `i128`, so the `getD` default of
`FML.cutoff` is never taken -/
theorem cutoff_eq (l : FML) (h : inI64 l.interval = true) : l.cutoff = 4 * tivToDur l.interval := by
  rw [inI64_iff] at h
  have e : tivToDur l.interval * ((FM_TIME_WINDOW : Int) * (F32 : Int)) / (F32 : Int) = 4 * tivToDur l.interval := by
    rw [← Int.mul_assoc, Int.mul_ediv_cancel _ (by decide), Int.mul_comm]
    rfl
  unfold FML.cutoff durMulFix
  rw [e, if_pos ((inI128_iff _).2 (by unfold tivToDur F16; omega))]
  rfl

theorem cutoff_pos (l : FML) (h : inI64 l.interval = true) (hp : 0 < l.interval) : 0 < l.cutoff := by
  rw [cutoff_eq l h]
  exact Int.mul_pos (by decide) (Int.mul_pos hp (by decide))

/-- the list after `take_qualified_announce_messages` -/
def tqList (l : FML) : FML := { l with masters := l.masters.map (fun m => (tq1 m).1) }

theorem tqList_params (l : FML) : SameParams (tqList l) l := ⟨rfl, rfl⟩

/-- `take_qualified_announce_messages` walks the masters from last to first, hence the `reverse` -/
theorem takeQualified_eq (l : FML) :
    l.takeQualified = (tqList l, l.masters.reverse.filterMap (fun m => (tq1 m).2)) := by
  have key : ∀ ms : List ForeignMaster,
      ms.foldr tqStep ([], []) = (ms.map (fun m => (tq1 m).1), ms.reverse.filterMap (fun m => (tq1 m).2)) := by
    intro ms
    induction ms with
    | nil => rfl
    | cons m ms ih =>
      rw [List.foldr_cons, ih, tqStep_eq, List.map_cons, List.reverse_cons, List.filterMap_append, List.filterMap_cons,
        List.filterMap_nil]
      cases (tq1 m).2 <;> rfl
  unfold FML.takeQualified tqList
  rw [key]

theorem takeQualified_spec (l : FML) :
    (∀ m ∈ l.takeQualified.1.masters, ∃ m0 ∈ l.masters, m.id = m0.id ∧ ∀ r ∈ m.recs, r ∈ m0.recs) ∧
    (∀ r ∈ l.takeQualified.2, ∃ m0 ∈ l.masters, FM_THRESHOLD ≤ m0.recs.length ∧ m0.recs.getLast? = some r) := by
  rw [takeQualified_eq]
  constructor
  · intro m hm
    obtain ⟨m0, hm0, rfl⟩ := List.mem_map.1 hm
    exact ⟨m0, hm0, (tq1_shrinks m0).id, fun r hr => (tq1_shrinks m0).sub.subset hr⟩
  · intro r hr
    obtain ⟨m0, hm0, h⟩ := List.mem_filterMap.1 hr
    exact ⟨m0, List.mem_reverse.1 hm0, tq1_taken m0 r h⟩

theorem stepAge_params (l : FML) (s : Int) : SameParams (l.stepAge s) l := ⟨rfl, rfl⟩

theorem register_unqualified (l : FML) (a : Ann) (age : Int) (h : l.qualified a = false) : l.register a age = l := by
  unfold FML.register
  rw [h]
  rfl

theorem register_known (l : FML) (a : Ann) (age : Int) (h : l.qualified a = true)
    (hk : l.masters.any (fun m => m.id = a.hdr.src) = true) :
    l.register a age =
      { l with masters := l.masters.map (fun m => if m.id = a.hdr.src then m.register l.cutoff a age else m) } := by
  unfold FML.register
  rw [h, hk]
  rfl

theorem register_new (l : FML) (a : Ann) (age : Int) (h : l.qualified a = true)
    (hk : l.masters.any (fun m => m.id = a.hdr.src) = false) (hroom : l.masters.length < MAX_FOREIGN_MASTERS) :
    l.register a age = { l with masters := l.masters ++ [⟨a.hdr.src, [⟨a, 0⟩]⟩] } := by
  unfold FML.register
  rw [h, hk, if_pos hroom]
  rfl

theorem register_full (l : FML) (a : Ann) (age : Int) (h : l.qualified a = true)
    (hk : l.masters.any (fun m => m.id = a.hdr.src) = false) (hroom : ¬ l.masters.length < MAX_FOREIGN_MASTERS) :
    l.register a age = l := by
  unfold FML.register
  rw [h, hk, if_neg hroom]
  rfl

inductive RegisterCase (l : FML) (a : Ann) (age : Int) : Prop
  /-- not qualified, or unknown sender and no room for a new entry -/
  | unchanged (e : l.register a age = l)
  | known (hq : l.qualified a = true) (e : l.register a age =
      { l with masters := l.masters.map (fun m => if m.id = a.hdr.src then m.register l.cutoff a age else m) })
  | new (hq : l.qualified a = true) (hno : ¬ ∃ m0 ∈ l.masters, m0.id = a.hdr.src)
      (e : l.register a age = { l with masters := l.masters ++ [⟨a.hdr.src, [⟨a, 0⟩]⟩] })

theorem register_cases (l : FML) (a : Ann) (age : Int) : RegisterCase l a age := by
  by_cases h : l.qualified a = true
  · by_cases hk : l.masters.any (fun m => m.id = a.hdr.src) = true
    · exact .known h (register_known l a age h hk)
    · by_cases hroom : l.masters.length < MAX_FOREIGN_MASTERS
      · exact .new h (fun ⟨m0, hm0, he⟩ => hk (List.any_eq_true.2 ⟨m0, hm0, decide_eq_true he⟩))
          (register_new l a age h (Bool.eq_false_iff.2 hk) hroom)
      · exact .unchanged (register_full l a age h (Bool.eq_false_iff.2 hk) hroom)
  · exact .unchanged (register_unqualified l a age (Bool.eq_false_iff.2 h))

theorem register_params (l : FML) (a : Ann) (age : Int) : SameParams (l.register a age) l := by
  cases register_cases l a age with
  | unchanged e | known _ e | new _ _ e => rw [e]; exact ⟨rfl, rfl⟩

theorem register_onto (l : FML) (a : Ann) (age : Int) :
    ∀ m0 ∈ l.masters, ∃ m ∈ (l.register a age).masters, m.id = m0.id := by
  intro m0 hm0
  cases register_cases l a age with
  | unchanged e => rw [e]; exact ⟨m0, hm0, rfl⟩
  | known _ e =>
    rw [e]
    refine ⟨_, List.mem_map_of_mem hm0, ?_⟩
    split
    · exact register_id _ _ _ _
    · rfl
  | new _ _ e => rw [e]; exact ⟨m0, List.mem_append_left _ hm0, rfl⟩

theorem qualified_iff (l : FML) (a : Ann) :
    l.qualified a = true ↔ a.hdr.src.clock ≠ l.own.clock ∧ l.stale a = false ∧ a.body.steps < STEPS_CUTOFF := by
  unfold FML.qualified
  rw [Bool.and_eq_true, Bool.and_eq_true, decide_eq_true_eq, decide_eq_true_eq, Bool.not_eq_true', and_assoc]

theorem stale_unlisted (l : FML) (a : Ann) (h : ∀ m ∈ l.masters, m.id ≠ a.hdr.src) : l.stale a = false := by
  unfold FML.stale
  rw [List.find?_eq_none.2 fun m hm => by rw [decide_eq_true_eq]; exact h m hm]

theorem stale_listed (l : FML) (a : Ann) (m : ForeignMaster) (r : FRec)
    (hf : l.masters.find? (fun m => m.id = a.hdr.src) = some m) (hr : m.recs.getLast? = some r) :
    l.stale a = seqStale a.hdr.seq r.ann.hdr.seq := by
  unfold FML.stale
  rw [hf]
  dsimp only
  rw [hr]

theorem tqList_all {Q : ForeignMaster → Prop} (hQ : Hered Q) (l : FML) (h : ∀ m ∈ l.masters, Q m) :
    ∀ m ∈ (tqList l).masters, Q m :=
  List.forall_mem_map.2 fun m hm => hQ m _ (tq1_shrinks m) (h m hm)

/-- ageing may turn `Q` into `Q'` (a bound on the ages moves) -/
theorem stepAge_all {Q Q' : ForeignMaster → Prop} (hQ' : Hered Q') (l : FML) (s : Int)
    (hage : ∀ m, Q m → Q' (aged s m)) (h : ∀ m ∈ l.masters, Q m) : ∀ m ∈ (l.stepAge s).masters, Q' m := by
  intro m hm
  obtain ⟨m0, hm0, rfl⟩ := List.mem_map.1 (List.mem_filter.1 hm).1
  rw [stepAge_eq]
  exact hQ' _ _ (purge_shrinks l.cutoff (aged s m0)) (hage m0 (h m0 hm0))

theorem stepAge_nonempty (l : FML) (s : Int) (m : ForeignMaster) (hm : m ∈ (l.stepAge s).masters) : ∃ r, r ∈ m.recs := by
  cases hrecs : m.recs with
  | nil =>
    have := (List.mem_filter.1 hm).2
    rw [hrecs] at this
    cases this
  | cons r _ => exact ⟨r, List.mem_cons_self⟩

theorem register_all {Q Q' : ForeignMaster → Prop} (l : FML) (a : Ann) (age : Int) (hkeep : ∀ m, Q m → Q' m)
    (hpush : l.qualified a = true → ∀ m, m.id = a.hdr.src → Q m → Q' (m.register l.cutoff a age))
    (hnew : l.qualified a = true → (¬ ∃ m0 ∈ l.masters, m0.id = a.hdr.src) → Q' ⟨a.hdr.src, [⟨a, 0⟩]⟩)
    (h : ∀ m ∈ l.masters, Q m) : ∀ m ∈ (l.register a age).masters, Q' m := by
  cases register_cases l a age with
  | unchanged e => rw [e]; exact fun m hm => hkeep m (h m hm)
  | known hq e =>
    rw [e]
    refine List.forall_mem_map.2 fun m hm => ?_
    split
    · exact hpush hq m ‹_› (h m hm)
    · exact hkeep m (h m hm)
  | new hq hno e =>
    rw [e]
    intro m hm
    rcases List.mem_append.1 hm with h1 | h1
    · exact hkeep m (h m h1)
    · rw [List.mem_singleton.1 h1]
      exact hnew hq hno

def AllM (P : PortId → Ann → Prop) (l : FML) : Prop := ∀ m ∈ l.masters, ∀ r ∈ m.recs, P m.id r.ann

theorem register_allM (P : PortId → Ann → Prop) (l : FML) (a : Ann) (age : Int) (h : AllM P l)
    (hq : l.qualified a = true → P a.hdr.src a) : AllM P (l.register a age) := by
  refine register_all l a age (fun _ hm => hm) (fun hqa m he hm r hr => ?_) (fun hqa _ r hr => ?_) h
  · rw [register_id, he]
    rcases register_recs _ _ _ _ r hr with h2 | rfl
    · exact he ▸ hm r h2
    · exact hq hqa
  · rw [List.mem_singleton.1 hr]
    exact hq hqa

theorem tqList_allM (P : PortId → Ann → Prop) (l : FML) (h : AllM P l) : AllM P (tqList l) :=
  tqList_all (hered_recs fun id r => P id r.ann) l h

theorem stepAge_allM (P : PortId → Ann → Prop) (l : FML) (s : Int) (h : AllM P l) : AllM P (l.stepAge s) :=
  stepAge_all (hered_recs fun id r => P id r.ann) l s
    (fun _ hm r hr => by obtain ⟨r0, hr0, rfl⟩ := List.mem_map.1 hr; exact hm r0 hr0) h

/-- whatever passes `is_announce_message_qualified` satisfies `P`: all an invariant needs of new records -/
def Admits (P : PortId → Ann → Prop) (own : PortId) : Prop :=
  ∀ a : Ann, a.hdr.src.clock ≠ own.clock → a.body.steps < STEPS_CUTOFF → P a.hdr.src a

theorem Admits.of_qualified {P : PortId → Ann → Prop} {l : FML} (hP : Admits P l.own) {a : Ann}
    (hq : l.qualified a = true) : P a.hdr.src a := by
  obtain ⟨hclock, _, hsteps⟩ := (qualified_iff l a).1 hq
  exact hP a hclock hsteps

theorem bmcaRegister_cases (l : FML) (acc : Option (List Nat)) (a : Ann) :
    (bmcaRegister l acc a).1 = l.register a 0 ∨ (bmcaRegister l acc a).1 = l := by
  unfold bmcaRegister
  split
  · exact Or.inl rfl
  · exact Or.inr rfl

theorem bmcaRegister_allM (P : PortId → Ann → Prop) (l : FML) (acc : Option (List Nat)) (a : Ann)
    (hP : Admits P l.own) (h : AllM P l) : AllM P (bmcaRegister l acc a).1 := by
  rcases bmcaRegister_cases l acc a with e | e <;> rw [e]
  · exact register_allM P l a 0 h hP.of_qualified
  · exact h

theorem bmcaRegister_params (l : FML) (acc : Option (List Nat)) (a : Ann) : SameParams (bmcaRegister l acc a).1 l := by
  rcases bmcaRegister_cases l acc a with e | e <;> rw [e]
  · exact register_params _ _ _
  · exact ⟨rfl, rfl⟩

/-- the candidates of a BMCA run on this port: the records `take_qualified_announce_messages` hands out -/
def erbestCands (l : FML) : List Best :=
  (l.masters.reverse.filterMap (fun m => (tq1 m).2)).map (fun r => { ann := r.ann, age := r.age, identity := l.own })

theorem mem_erbestCands (l : FML) (b : Best) :
    b ∈ erbestCands l ↔ ∃ m ∈ l.masters, ∃ r, (tq1 m).2 = some r ∧ b = ⟨r.ann, r.age, l.own⟩ := by
  unfold erbestCands
  constructor
  · intro hb
    obtain ⟨r, hr, rfl⟩ := List.mem_map.1 hb
    obtain ⟨m, hm, hq⟩ := List.mem_filterMap.1 hr
    exact ⟨m, List.mem_reverse.1 hm, r, hq, rfl⟩
  · rintro ⟨m, hm, r, hq, rfl⟩
    exact List.mem_map.2 ⟨r, List.mem_filterMap.2 ⟨m, List.mem_reverse.2 hm, hq⟩, rfl⟩

/-- the best candidate is registered again if this port listens to its sender -/
theorem takeBest_eq (l : FML) (acc : Option (List Nat)) :
    takeBest l acc =
      match findBest (erbestCands l) with
      | none => (tqList l, none)
      | some b =>
        (if b.ann.hdr.src ≠ l.own ∧ acceptable acc b.ann.hdr.src.clock then (tqList l).register b.ann b.age
          else tqList l, some b) := by
  unfold takeBest
  rw [takeQualified_eq]
  rfl

theorem takeBest_spec (l : FML) (acc : Option (List Nat)) (b : Best) (h : (takeBest l acc).2 = some b) :
    b.identity = l.own ∧
    ∃ m0 ∈ l.masters, FM_THRESHOLD ≤ m0.recs.length ∧ m0.recs.getLast? = some ⟨b.ann, b.age⟩ := by
  rw [takeBest_eq] at h
  cases hb : findBest (erbestCands l) with
  | none => rw [hb] at h; cases h
  | some b' =>
    rw [hb] at h
    cases h
    obtain ⟨m0, hm0, r, hq, rfl⟩ := (mem_erbestCands l _).1 (maxBy_mem _ _ _ hb)
    exact ⟨rfl, m0, hm0, tq1_taken m0 r hq⟩

theorem takeBest_list (l : FML) (acc : Option (List Nat)) :
    (takeBest l acc).1 = tqList l ∨
    ∃ b, (takeBest l acc).2 = some b ∧ (takeBest l acc).1 = (tqList l).register b.ann b.age := by
  rw [takeBest_eq]
  cases findBest (erbestCands l) with
  | none => exact Or.inl rfl
  | some b =>
    dsimp only
    split
    · exact Or.inr ⟨b, rfl, rfl⟩
    · exact Or.inl rfl

theorem takeBest_params (l : FML) (acc : Option (List Nat)) : SameParams (takeBest l acc).1 l := by
  rcases takeBest_list l acc with e | ⟨b, _, e⟩ <;> rw [e]
  · exact tqList_params l
  · exact (register_params _ _ _).trans (tqList_params l)

theorem takeBest_allM (P : PortId → Ann → Prop) (l : FML) (acc : Option (List Nat))
    (hP : Admits P l.own) (h : AllM P l) : AllM P (takeBest l acc).1 := by
  rcases takeBest_list l acc with e | ⟨b, _, e⟩ <;> rw [e]
  · exact tqList_allM P l h
  · exact register_allM P _ _ _ (tqList_allM P l h) (Admits.of_qualified (l := tqList l) hP)

end Statime
