import StatimeModel.Lemmas.Fml
/-
The foreign master list of a port that hears several foreign masters, one of which — `c.src` — announces
once per BMCA period with consecutive sequence numbers and is better (by the data set comparison) than
anything the others announce. `Entry` says what the list looks like between any two steps; there is one lemma per
kind of step. What the statements of C06 mention is in the namespace `Statime.Steady`, the rest in `Statime.Multi`.
-/
namespace Statime.Steady
open Statime

/-- what the port knows about the sender and the list parameters that never change -/
structure Ctx where
  interval : Int
  own : PortId
  acc : Option (List Nat)
  src : PortId

def Ctx.Listens (c : Ctx) : Prop :=
  c.src ≠ c.own ∧ c.src.clock ≠ c.own.clock ∧ acceptable c.acc c.src.clock = true

/-- an Announce of the sender passes the test `Bmca::register_announce_message` and `take_best_port_announce_message`
make before they register it -/
theorem Ctx.Listens.heard {c : Ctx} (hl : c.Listens) {a : Ann} {l : FML} (hsrc : a.hdr.src = c.src)
    (hown : l.own = c.own) : a.hdr.src ≠ l.own ∧ acceptable c.acc a.hdr.src.clock = true := by
  obtain ⟨hne, _, hacc⟩ := hl
  rw [hsrc, hown]
  exact ⟨hne, hacc⟩

/-- the own-clock rule of `is_announce_message_qualified` -/
theorem Ctx.Listens.clock_ne {c : Ctx} (hl : c.Listens) {a : Ann} {l : FML} (hsrc : a.hdr.src = c.src)
    (hown : l.own = c.own) : a.hdr.src.clock ≠ l.own.clock := by
  obtain ⟨_, hclock, _⟩ := hl
  rw [hsrc, hown]
  exact hclock

/-- the window of the port: `FML.cutoff` of any list with the port's announce interval (`Entry.cutoff`) -/
def Ctx.cutoff (c : Ctx) : Int := FML.cutoff ⟨[], c.interval, c.own⟩

/-- the round's Announce -/
def Next (c : Ctx) (q : Nat) (a : Ann) : Prop :=
  a.hdr.src = c.src ∧ a.hdr.seq = (q + 1) % 65536 ∧ a.body.steps < STEPS_CUTOFF

theorem Next.src {c : Ctx} {q : Nat} {a : Ann} (h : Next c q a) : a.hdr.src = c.src := h.1

end Statime.Steady

namespace Statime.Multi
open Statime Statime.Steady

def Others (src : PortId) (S : Ann → Prop) (es : List ForeignMaster) : Prop :=
  ∀ e ∈ es, e.id ≠ src ∧ ∀ r ∈ e.recs, S r.ann

theorem others_nil (src : PortId) (S : Ann → Prop) : Others src S [] := fun _ he => nomatch he

theorem register_fresh (c : Int) (src : PortId) (recs : List FRec) (r : FRec) (a : Ann) (age : Int)
    (hfresh : ∀ x ∈ recs ++ [r], x.age < c) :
    ∃ recs', ForeignMaster.register c ⟨src, recs ++ [r]⟩ a age = ⟨src, recs' ++ [r, ⟨a, age⟩]⟩ ∧
      ∀ x ∈ recs', x ∈ recs := by
  rw [register_of_fresh c ⟨src, recs ++ [r]⟩ a age hfresh]
  split
  · exact ⟨recs, by rw [List.append_assoc]; rfl, fun _ h => h⟩
  · next hfull =>
    -- full, so there is an older record to drop
    cases recs with
    | nil => exact absurd (show (0 : Nat) + 1 < MAX_ANNOUNCE_MESSAGES by decide) hfull
    | cons p0 recs' =>
      exact ⟨recs', by rw [List.cons_append, List.drop_one, List.tail_cons, List.append_assoc]; rfl,
        fun _ h => List.mem_cons_of_mem _ h⟩

theorem stepAge_fresh (c s : Int) (src : PortId) (recs : List FRec) (a : Ann) (hs : s < c) :
    ∃ recs', ForeignMaster.stepAge c s ⟨src, recs ++ [⟨a, 0⟩]⟩ = ⟨src, recs' ++ [⟨a, s⟩]⟩ ∧
      ∀ x ∈ recs' ++ [⟨a, s⟩], x.age < c := by
  refine ⟨(recs.map fun (r : FRec) => { r with age := r.age + s }).filter (fun r => r.age < c), ?_, fun x hx => ?_⟩
  · simp only [ForeignMaster.stepAge, ForeignMaster.purge, List.map_append, List.filter_append, List.map_cons,
      List.map_nil, Int.zero_add, List.filter_cons, hs, decide_true, ↓reduceIte, List.filter_nil]
  · rcases List.mem_append.1 hx with hx | hx
    · exact of_decide_eq_true (List.mem_filter.1 hx).2
    · rw [List.mem_singleton.1 hx]
      exact hs

/-- `a` beats `a'` as seen from the receiving port `own` -/
def Dom (own : PortId) (a a' : Ann) : Prop :=
  ((CmpDS.ofAnnounce a own).compare (CmpDS.ofAnnounce a' own)).asOrdering = .gt ∧
  ((CmpDS.ofAnnounce a' own).compare (CmpDS.ofAnnounce a own)).asOrdering = .lt

/-- the second half of `Dom` follows from the first -/
theorem dom_iff (own : PortId) (a a' : Ann) :
    Dom own a a' ↔ ((CmpDS.ofAnnounce a own).compare (CmpDS.ofAnnounce a' own)).asOrdering = .gt :=
  ⟨fun h => h.1, fun h => ⟨h, by rw [CmpDS.compare_asOrdering_swap (CmpDS.ofAnnounce a own), h]; rfl⟩⟩

theorem dom_iff_gmKey (own : PortId) (a a' : Ann) (hgm : a.body.gm ≠ a'.body.gm) :
    Dom own a a' ↔ keyCmp (CmpDS.ofAnnounce a own).gmKey (CmpDS.ofAnnounce a' own).gmKey = .lt := by
  rw [dom_iff, compare_asOrdering_gmKey _ _ hgm, keyCmp_gt_iff]

/-- an Announce of another sender: worse than every good Announce (`G`) of the steady master -/
def SOther (c : Ctx) (G : Ann → Prop) (a' : Ann) : Prop := a'.hdr.src ≠ c.src ∧ ∀ a, G a → Dom c.own a a'

theorem best_compare_dom (own : PortId) (a a' : Ann) (x y : Int) (h : Dom own a a') :
    Best.compare ⟨a, x, own⟩ ⟨a', y, own⟩ = .gt ∧ Best.compare ⟨a', y, own⟩ ⟨a, x, own⟩ ≠ .gt := by
  unfold Best.compare
  rw [h.1, h.2]
  exact ⟨rfl, Ordering.noConfusion⟩

theorem tq1_src (src : PortId) (recs : List FRec) (p r : FRec) :
    tq1 ⟨src, recs ++ [p, r]⟩ = (⟨src, recs ++ [p]⟩, some r) := by
  rw [List.append_cons]
  unfold tq1
  rw [if_pos (by simp [FM_THRESHOLD]), List.getLast?_concat, List.dropLast_concat]

/-- what `Entry` says of one listed master -/
structure EntryOk (c : Ctx) (G : Ann → Prop) (rs : List FRec) (m : ForeignMaster) : Prop where
  steady : m.id = c.src → m.recs = rs
  others : m.id ≠ c.src → ∀ r ∈ m.recs, SOther c G r.ann

theorem EntryOk.src (c : Ctx) (G : Ann → Prop) (rs : List FRec) : EntryOk c G rs ⟨c.src, rs⟩ :=
  ⟨fun _ => rfl, fun hne => absurd rfl hne⟩

theorem EntryOk.other {c : Ctx} {G : Ann → Prop} {rs : List FRec} {m : ForeignMaster} (hid : m.id ≠ c.src)
    (h : ∀ r ∈ m.recs, SOther c G r.ann) : EntryOk c G rs m :=
  ⟨fun e => absurd e hid, fun _ => h⟩

/-- where the entries stand in the list, and that there is one per sender, is not said: no step needs it
(`entry_find`) -/
structure Entry (c : Ctx) (G : Ann → Prop) (l : FML) (rs : List FRec) : Prop where
  interval : l.interval = c.interval
  own : l.own = c.own
  ex : ∃ m ∈ l.masters, m.id = c.src
  each : ∀ m ∈ l.masters, EntryOk c G rs m
  fresh : ∀ x ∈ rs, x.age < c.cutoff

theorem Entry.eta {c : Ctx} {G : Ann → Prop} {l : FML} {rs : List FRec} (h : Entry c G l rs) {m : ForeignMaster}
    (hm : m ∈ l.masters) (hid : m.id = c.src) : m = ⟨c.src, rs⟩ := by
  rw [← hid, ← (h.each m hm).steady hid]

theorem Entry.cutoff {c : Ctx} {G : Ann → Prop} {l : FML} {rs : List FRec} (h : Entry c G l rs) :
    l.cutoff = c.cutoff :=
  cutoff_congr _ l h.interval

theorem Entry.map {c : Ctx} {G : Ann → Prop} {l : FML} {rs rs' : List FRec} (h : Entry c G l rs)
    (f : ForeignMaster → ForeignMaster) (hsrc : f ⟨c.src, rs⟩ = ⟨c.src, rs'⟩)
    (hoth : ∀ m ∈ l.masters, m.id ≠ c.src → (f m).id ≠ c.src ∧ ∀ r ∈ (f m).recs, SOther c G r.ann)
    (hfresh : ∀ x ∈ rs', x.age < c.cutoff) : Entry c G { l with masters := l.masters.map f } rs' := by
  obtain ⟨m0, hm0, hid0⟩ := h.ex
  refine ⟨h.interval, h.own, ⟨_, List.mem_map_of_mem hm0, by rw [h.eta hm0 hid0, hsrc]⟩,
    List.forall_mem_map.2 fun m hm => ?_, hfresh⟩
  by_cases hid : m.id = c.src
  · rw [h.eta hm hid, hsrc]
    exact .src c G _
  · exact .other (hoth m hm hid).1 (hoth m hm hid).2

theorem Entry.filter {c : Ctx} {G : Ann → Prop} {l : FML} {rs : List FRec} (h : Entry c G l rs)
    (keep : ForeignMaster → Bool) (hkeep : keep ⟨c.src, rs⟩ = true) :
    Entry c G { l with masters := l.masters.filter keep } rs := by
  obtain ⟨m0, hm0, hid0⟩ := h.ex
  exact ⟨h.interval, h.own, ⟨m0, List.mem_filter.2 ⟨hm0, by rw [h.eta hm0 hid0]; exact hkeep⟩, hid0⟩,
    fun m hm => h.each m (List.mem_filter.1 hm).1, h.fresh⟩

theorem entry_announce_other (c : Ctx) (G : Ann → Prop) (l : FML) (rs : List FRec) (a' : Ann)
    (h : Entry c G l rs) (hs : SOther c G a') : Entry c G (bmcaRegister l c.acc a').1 rs := by
  rcases bmcaRegister_cases l c.acc a' with e | e <;> rw [e]
  · have hp := register_params l a' 0
    obtain ⟨m0, hm0, hid0⟩ := h.ex
    obtain ⟨m, hm, hid⟩ := register_onto l a' 0 m0 hm0
    refine ⟨hp.interval.trans h.interval, hp.own.trans h.own, ⟨m, hm, hid.trans hid0⟩, ?_, h.fresh⟩
    refine register_all l a' 0 (fun _ hm => hm) (fun _ m he hm => ?_)
      (fun _ _ => .other hs.1 fun r hr => List.mem_singleton.1 hr ▸ hs) h.each
    have hne : m.id ≠ c.src := he ▸ hs.1
    exact .other (by rw [register_id]; exact hne)
      fun r hr => (register_recs _ _ _ _ r hr).elim (hm.others hne r) (fun e => e ▸ hs)
  · exact h

/-- the entry `FML.stale` looks at is one of those filed under the sender -/
theorem entry_find (c : Ctx) (G : Ann → Prop) (l : FML) (rs : List FRec) (h : Entry c G l rs) :
    ∃ m, l.masters.find? (fun m => m.id = c.src) = some m ∧ m.recs = rs := by
  obtain ⟨m0, hm0, hid0⟩ := h.ex
  cases hf : l.masters.find? (fun m => m.id = c.src) with
  | none => exact absurd (decide_eq_true hid0) (List.find?_eq_none.1 hf m0 hm0)
  | some m =>
    have hid := List.find?_some hf
    exact ⟨m, rfl, (h.each m (List.mem_of_find?_eq_some hf)).steady (of_decide_eq_true hid)⟩

theorem entry_register_src (c : Ctx) (G : Ann → Prop) (l : FML) (recs : List FRec) (r : FRec) (a : Ann) (age : Int)
    (hl : c.Listens) (h : Entry c G l (recs ++ [r])) (hn : Next c r.ann.hdr.seq a) :
    l.register a age =
      { l with masters := l.masters.map (fun m => if m.id = a.hdr.src then m.register l.cutoff a age else m) } := by
  obtain ⟨hsrc, hseq, hsteps⟩ := hn
  obtain ⟨m, hfind, hrecs⟩ := entry_find c G l _ h
  have hstale : l.stale a = false := by
    rw [stale_listed l a m r (by rw [hsrc]; exact hfind) (by rw [hrecs]; exact List.getLast?_concat), hseq]
    exact seqStale_succ _
  obtain ⟨m0, hm0, hid0⟩ := h.ex
  exact register_known l a age ((qualified_iff l a).2 ⟨hl.clock_ne hsrc h.own, hstale, hsteps⟩)
    (List.any_eq_true.2 ⟨m0, hm0, decide_eq_true (hid0.trans hsrc.symm)⟩)

theorem entry_register (c : Ctx) (G : Ann → Prop) (l : FML) (recs : List FRec) (r : FRec) (a : Ann) (hl : c.Listens)
    (hpos : 0 < c.cutoff) (h : Entry c G l (recs ++ [r])) (hn : Next c r.ann.hdr.seq a) :
    ∃ recs', Entry c G (l.register a 0) (recs' ++ [r, ⟨a, 0⟩]) := by
  obtain ⟨recs', he, hsub⟩ := register_fresh l.cutoff c.src recs r a 0 (by rw [h.cutoff]; exact h.fresh)
  rw [entry_register_src c G l recs r a 0 hl h hn, hn.src]
  refine ⟨recs', h.map _ ((if_pos rfl).trans he) (fun m hm hid => ?_) fun x hx => ?_⟩
  · rw [if_neg hid]
    exact ⟨hid, (h.each m hm).others hid⟩
  · rcases List.mem_append.1 hx with hx | hx
    · exact h.fresh x (List.mem_append_left _ (hsub x hx))
    · rcases List.mem_cons.1 hx with rfl | hx
      · exact h.fresh x (List.mem_append_right _ List.mem_cons_self)
      · rw [List.mem_singleton.1 hx]; exact hpos

theorem entry_announce_src (c : Ctx) (G : Ann → Prop) (l : FML) (recs : List FRec) (r : FRec) (a : Ann) (hl : c.Listens)
    (hpos : 0 < c.cutoff) (h : Entry c G l (recs ++ [r])) (hn : Next c r.ann.hdr.seq a) :
    ∃ recs', Entry c G (bmcaRegister l c.acc a).1 (recs' ++ [r, ⟨a, 0⟩]) := by
  unfold bmcaRegister
  rw [if_pos (hl.heard hn.src h.own)]
  exact entry_register c G l recs r a hl hpos h hn

theorem entry_stepAge (c : Ctx) (G : Ann → Prop) (l : FML) (rs : List FRec) (a : Ann) (s : Int) (hs : s < c.cutoff)
    (h : Entry c G l (rs ++ [⟨a, 0⟩])) : ∃ rs', Entry c G (l.stepAge s) (rs' ++ [⟨a, s⟩]) := by
  obtain ⟨rs', he, hfresh⟩ := stepAge_fresh l.cutoff s c.src rs a (by rw [h.cutoff]; exact hs)
  rw [h.cutoff] at hfresh
  have hoth : ∀ m ∈ l.masters, m.id ≠ c.src → ∀ r ∈ (m.stepAge l.cutoff s).recs, SOther c G r.ann := by
    intro m hm hid r hr
    obtain ⟨r0, hr0, rfl, _⟩ := stepAge_mem _ _ m r hr
    exact (h.each m hm).others hid r0 hr0
  -- the steady master's entries keep a record, so `FML.stepAge` does not drop them
  exact ⟨rs', (h.map (ForeignMaster.stepAge l.cutoff s) he (fun m hm hid => ⟨hid, hoth m hm hid⟩) hfresh).filter _
    (by simp)⟩

theorem entry_tqList (c : Ctx) (G : Ann → Prop) (l : FML) (recs : List FRec) (p r : FRec)
    (h : Entry c G l (recs ++ [p, r])) : Entry c G (tqList l) (recs ++ [p]) :=
  h.map (fun m => (tq1 m).1) (by rw [tq1_src])
    (fun m hm hid => ⟨fun e => hid ((tq1_shrinks m).id.symm.trans e),
      fun x hx => (h.each m hm).others hid x ((tq1_shrinks m).sub.subset hx)⟩)
    (fun x hx => h.fresh x (by rw [List.append_cons]; exact List.mem_append_left _ hx))

/-- the steady master's entries all give the record `⟨a, x⟩`, and it beats what the others give -/
theorem entry_findBest (c : Ctx) (G : Ann → Prop) (l : FML) (recs : List FRec) (p : FRec) (a : Ann) (x : Int) (hG : G a)
    (h : Entry c G l (recs ++ [p, ⟨a, x⟩])) : findBest (erbestCands l) = some ⟨a, x, c.own⟩ := by
  obtain ⟨m0, hm0, hid0⟩ := h.ex
  refine maxBy_dominant _ _ _
    ((mem_erbestCands l _).2 ⟨m0, hm0, ⟨a, x⟩, by rw [h.eta hm0 hid0, tq1_src], by rw [h.own]⟩) (fun y hy hne => ?_)
  obtain ⟨e, he, r', hre, rfl⟩ := (mem_erbestCands l y).1 hy
  rw [h.own] at hne ⊢
  by_cases hid : e.id = c.src
  · rw [h.eta he hid, tq1_src] at hre
    cases hre
    exact absurd rfl hne
  · exact best_compare_dom c.own a r'.ann x r'.age
      (((h.each e he).others hid r' (List.mem_of_getLast? (tq1_taken e r' hre).2)).2 a hG)

/-- **the BMCA run**: the steady master is Erbest, with the round's Announce. Taking that record out leaves `p` the
newest, so the Announce passes the sequence-number test by `hn` as it did on arrival and re-registration puts the
record back; ageing leaves it the newest -/
theorem entry_bmca (c : Ctx) (G : Ann → Prop) (l : FML) (recs : List FRec) (p : FRec) (a : Ann) (s : Int) (hl : c.Listens)
    (hsc : s < c.cutoff) (hn : Next c p.ann.hdr.seq a) (hG : G a) (h : Entry c G l (recs ++ [p, ⟨a, 0⟩])) :
    (takeBest l c.acc).2 = some ⟨a, 0, c.own⟩ ∧ ∃ rs, Entry c G ((takeBest l c.acc).1.stepAge s) (rs ++ [⟨a, s⟩]) := by
  have hpos : 0 < c.cutoff := h.fresh ⟨a, 0⟩ (by simp)
  obtain ⟨recs1, h1⟩ := entry_register c G (tqList l) recs p a hl hpos (entry_tqList c G l recs p _ h) hn
  rw [takeBest_eq, entry_findBest c G l recs p a 0 hG h]
  dsimp only
  rw [if_pos (hl.heard hn.src h.own)]
  rw [List.append_cons] at h1
  exact ⟨rfl, entry_stepAge c G _ _ a s hsc h1⟩

theorem entry_first (c : Ctx) (G : Ann → Prop) (l : FML) (a : Ann) (hl : c.Listens) (hint : l.interval = c.interval)
    (hown : l.own = c.own) (hothers : Others c.src (SOther c G) l.masters) (hroom : l.masters.length < MAX_FOREIGN_MASTERS)
    (hsrc : a.hdr.src = c.src) (hsteps : a.body.steps < STEPS_CUTOFF) (hpos : 0 < c.cutoff) :
    Entry c G (bmcaRegister l c.acc a).1 ([] ++ [⟨a, 0⟩]) := by
  have hno : ∀ e ∈ l.masters, e.id ≠ a.hdr.src := fun e he => hsrc ▸ (hothers e he).1
  have hqual : l.qualified a = true :=
    (qualified_iff l a).2 ⟨hl.clock_ne hsrc hown, stale_unlisted l a hno, hsteps⟩
  unfold bmcaRegister
  rw [if_pos (hl.heard hsrc hown)]
  rw [register_new l a 0 hqual (List.any_eq_false.2 fun e he => by rw [decide_eq_true_eq]; exact hno e he) hroom, hsrc]
  refine ⟨hint, hown, ⟨_, List.mem_append_right _ List.mem_cons_self, rfl⟩, fun m hm => ?_,
    fun x hx => by rw [List.mem_singleton.1 hx]; exact hpos⟩
  rcases List.mem_append.1 hm with hm | hm
  · exact .other (hothers m hm).1 (hothers m hm).2
  · rw [List.mem_singleton.1 hm]
    exact .src c G _

end Statime.Multi
