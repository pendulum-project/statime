import StatimeModel.Lemmas.ForwarderL
/-
History invariant of the forwarded-TLV queue: whatever a forwarder has handed out so far is a
subsequence — by position — of the part of the channel log it has consumed.

No operation moves a forwarder's consumed prefix back, and `next_if_smaller` moves it over the values
it skips and then over the one it hands out.
-/
namespace Statime.Fwd

/-- the values forwarder `i` handed out during a run (ops paired with their outputs) -/
def delivered (i : Nat) : List Op → List (Option Item) → List Item
  | .next j _ :: ops, some v :: os => if j = i then v :: delivered i ops os else delivered i ops os
  | _ :: ops, _ :: os => delivered i ops os
  | _, _ => []

def Inv (s : St) (i : Nat) (d : List Item) : Prop :=
  match s.rxs[i]? with
  | some r => Wf s.log r ∧ d.Sublist (s.log.take r.readPos)
  | none => d = []

theorem inv_init (i : Nat) : Inv {} i [] := by
  cases i with
  | zero => exact ⟨wf_none (Nat.le_refl _), List.Sublist.refl _⟩
  | succ n => rfl

variable {log : List Item} {r : Rx} {s : St} {i : Nat} {d : List Item}

/-- `List.take_sublist_take_left`, which in core rests on `Classical.choice` -/
theorem take_sublist_take {α} (l : List α) {k k' : Nat} (h : k ≤ k') : (l.take k).Sublist (l.take k') := by
  rw [← Nat.min_eq_left h, ← List.take_take]
  exact List.take_sublist _ _

theorem take_next (h : Wf log r) (m : Nat) :
    log.take (nextIfSmaller log r m).2.readPos = log.take (skip log r) ++ (nextIfSmaller log r m).1.toList := by
  rcases next_cases h m with ⟨v, hv, _, e⟩ | ⟨_, e⟩ <;> rw [e]
  · show log.take (skip log r + 1) = _
    rw [List.take_add_one, hv]
  · rw [readPos_peekAt]
    exact (List.append_nil _).symm

theorem afterBmca_le (h : Wf log r) (pol : ClearPolicy) (b : Bool) :
    Wf log (afterBmca pol b log r) ∧ r.readPos ≤ (afterBmca pol b log r).readPos := by
  unfold afterBmca
  split
  · exact ⟨wf_none (Nat.le_refl _), readPos_le_length h⟩
  · exact ⟨h, Nat.le_refl _⟩

theorem inv_some (hr : s.rxs[i]? = some r) : Inv s i d ↔ Wf s.log r ∧ d.Sublist (s.log.take r.readPos) := by
  unfold Inv
  rw [hr]

/-- an operation that leaves forwarder `i` as it is and at most appends to the log; `d ++ []` is the form `inv_step`
asks for -/
theorem inv_same {s' : St} (h : Inv s i d) (hl : s.log <+: s'.log) (hr : s'.rxs[i]? = s.rxs[i]?) :
    Inv s' i (d ++ []) := by
  obtain ⟨l, hl⟩ := hl
  revert h
  unfold Inv
  rw [← hl, hr, List.append_nil]
  cases s.rxs[i]? with
  | none => exact id
  | some r =>
    intro ⟨hw, hs⟩
    refine ⟨wf_append l hw, ?_⟩
    rw [List.take_append_of_le_length (readPos_le_length hw)]
    exact hs

/-- an operation on forwarder `j` alone that moves its consumed prefix on to `k` and then over the
values `d1` it hands out -/
theorem inv_setRx {j k : Nat} {rj x : Rx} {d1 : List Item} (hj : s.rxs[j]? = some rj) (h : Inv s i d)
    (hx : j = i → Wf s.log rj → Wf s.log x ∧ rj.readPos ≤ k ∧ s.log.take x.readPos = s.log.take k ++ d1)
    (hd : j ≠ i → d1 = []) : Inv (setRx s j x) i (d ++ d1) := by
  by_cases hji : j = i
  · subst hji
    obtain ⟨hw, hs⟩ := (inv_some hj).1 h
    obtain ⟨hw', hk, e⟩ := hx rfl hw
    refine (inv_some (List.getElem?_set_self (List.getElem?_eq_some_iff.1 hj).1)).2 ⟨hw', ?_⟩
    show (d ++ d1).Sublist (s.log.take x.readPos)
    rw [e]
    exact (hs.trans (take_sublist_take _ hk)).append (List.Sublist.refl _)
  · rw [hd hji]
    exact inv_same h (List.prefix_refl _) (List.getElem?_set_ne hji)

theorem delivered_next (i j m : Nat) (o : Option Item) :
    delivered i [.next j m] [o] = if j = i then o.toList else [] := by
  cases o with
  | none => exact (ite_self _).symm
  | some v => rfl

theorem inv_step (s : St) (op : Op) (i : Nat) (d : List Item) (h : Inv s i d) :
    Inv (step s op).1 i (d ++ delivered i [op] [(step s op).2]) := by
  cases op with
  | dup j =>
    simp only [step]
    split
    · cases hi : s.rxs[i]? with
      | some r => exact inv_same h (List.prefix_refl _) (List.getElem?_append_left (List.getElem?_eq_some_iff.1 hi).1)
      | none =>
        unfold Inv at h
        rw [hi] at h
        cases h
        unfold Inv
        split
        · next r' hr' =>
          rw [List.getElem?_append_right (List.getElem?_eq_none_iff.1 hi)] at hr'
          cases List.mem_singleton.1 (List.mem_of_getElem? hr')
          exact ⟨wf_none (Nat.le_refl _), List.nil_sublist _⟩
        · rfl
    · exact inv_same h (List.prefix_refl _) rfl
  | forward v => exact inv_same h (List.prefix_append _ _) rfl
  | next j m =>
    simp only [step]
    cases hj : s.rxs[j]? with
    | none => exact inv_same h (List.prefix_refl _) rfl
    | some rj =>
      exact inv_setRx hj h
        (fun e hw => ⟨wf_next hw m, readPos_le_skip _ _, by rw [delivered_next, if_pos e]; exact take_next hw m⟩)
        (fun hne => by rw [delivered_next, if_neg hne])
  | empty j =>
    simp only [step]
    cases hj : s.rxs[j]? with
    | none => exact inv_same h (List.prefix_refl _) rfl
    | some rj =>
      exact inv_setRx hj h
        (fun _ hw => ⟨wf_none (Nat.le_refl _), readPos_le_length hw, (List.append_nil _).symm⟩) (fun _ => rfl)
  | bmca j pol b =>
    simp only [step]
    cases hj : s.rxs[j]? with
    | none => exact inv_same h (List.prefix_refl _) rfl
    | some rj =>
      exact inv_setRx hj h
        (fun _ hw => ⟨(afterBmca_le hw pol b).1, (afterBmca_le hw pol b).2, (List.append_nil _).symm⟩)
        (fun _ => rfl)

theorem delivered_cons (i : Nat) (op : Op) (o : Option Item) (ops : List Op) (os : List (Option Item)) :
    delivered i (op :: ops) (o :: os) = delivered i [op] [o] ++ delivered i ops os := by
  cases op with
  | next j m =>
    cases o with
    | none => rfl
    | some v =>
      show (if j = i then _ else _) = (if j = i then _ else _) ++ _
      split <;> rfl
  | _ => rfl

theorem run_inv (ops : List Op) : ∀ (s : St) (i : Nat) (d : List Item), Inv s i d →
    Inv (run s ops).1 i (d ++ delivered i ops (run s ops).2) := by
  induction ops with
  | nil => exact fun s i d h => inv_same h (List.prefix_refl _) rfl
  | cons op ops ih =>
    intro s i d h
    show Inv (run (step s op).1 ops).1 i (d ++ delivered i (op :: ops) ((step s op).2 :: (run (step s op).1 ops).2))
    rw [delivered_cons, ← List.append_assoc]
    exact ih _ i _ (inv_step s op i d h)

end Statime.Fwd
