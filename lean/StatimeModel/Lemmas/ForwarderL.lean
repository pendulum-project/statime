import StatimeModel.Model.Forwarder
/-
The forwarded-TLV queue model, one forwarder at a time. A well-formed forwarder (`Wf`) has consumed some log entries
and has peeked the next one or nothing. Whatever its shape and however far it lags, `next_if_smaller` looks at one log
entry, the one at `skip`, and hands it out if it fits: on the log from `skip` on it is "take the head if it fits"
(`popFit`), and without lag that is the forwarder's pending list.
-/
namespace Statime.Fwd

/-- number of log entries this forwarder has finally consumed (the peeked one is not consumed yet) -/
def Rx.readPos (r : Rx) : Nat := if r.peek.isSome then r.pos - 1 else r.pos

def Wf (log : List Item) (r : Rx) : Prop :=
  r.pos ≤ log.length ∧ ∀ v, r.peek = some v → 1 ≤ r.pos ∧ log[r.pos - 1]? = some v

/-- what this forwarder will still hand out, in order, if nothing is lost -/
def pending (log : List Item) (r : Rx) : List Item := r.peek.toList ++ log.drop r.pos

def NoLag (log : List Item) (r : Rx) : Prop := log.length ≤ r.pos + CAP

variable {log : List Item} {r : Rx}

theorem readPos_none (k : Nat) : (⟨k, none⟩ : Rx).readPos = k := rfl

theorem wf_none {k : Nat} (h : k ≤ log.length) : Wf log ⟨k, none⟩ :=
  ⟨h, fun _ hw => nomatch hw⟩

theorem wf_some {k : Nat} {v : Item} (h : log[k]? = some v) : Wf log ⟨k + 1, some v⟩ :=
  ⟨(List.getElem?_eq_some_iff.1 h).1, fun w hw => ⟨Nat.le_add_left 1 k, by cases hw; exact h⟩⟩

theorem wf_cases (h : Wf log r) :
    (∃ k, k ≤ log.length ∧ r = ⟨k, none⟩) ∨ (∃ k v, log[k]? = some v ∧ r = ⟨k + 1, some v⟩) := by
  obtain ⟨pos, peek⟩ := r
  cases peek with
  | none => exact .inl ⟨pos, h.1, rfl⟩
  | some v =>
    obtain ⟨h1, h2⟩ := h.2 v rfl
    cases pos with
    | zero => cases h1
    | succ k => exact .inr ⟨k, v, h2, rfl⟩

/-- where the next read happens: a forwarder with nothing peeked that is more than `CAP` behind
continues with the oldest retained value -/
def skip (log : List Item) (r : Rx) : Nat :=
  if r.peek = none ∧ r.pos + CAP < log.length then log.length - CAP else r.readPos

def peekAt (log : List Item) (k : Nat) : Rx :=
  match log[k]? with
  | some v => ⟨k + 1, some v⟩
  | none => ⟨k, none⟩

theorem peekAt_some {k : Nat} {v : Item} (h : log[k]? = some v) : peekAt log k = ⟨k + 1, some v⟩ := by
  unfold peekAt
  rw [h]

theorem peekAt_none {k : Nat} (h : log[k]? = none) : peekAt log k = ⟨k, none⟩ := by
  unfold peekAt
  rw [h]

theorem readPos_peekAt (log : List Item) (k : Nat) : (peekAt log k).readPos = k := by
  unfold peekAt
  split <;> rfl

theorem wf_peekAt {k : Nat} (h : k ≤ log.length) : Wf log (peekAt log k) := by
  unfold peekAt
  split
  · rename_i v hv
    exact wf_some hv
  · exact wf_none h

theorem pending_peekAt (log : List Item) (k : Nat) : pending log (peekAt log k) = log.drop k := by
  unfold peekAt
  split
  · rename_i v hv
    rw [List.drop_eq_getElem?_toList_append, hv]
    rfl
  · rfl

theorem readPos_le_skip (log : List Item) (r : Rx) : r.readPos ≤ skip log r := by
  unfold skip
  split
  · rename_i h
    have h1 : r.readPos = r.pos := by unfold Rx.readPos; rw [h.1]; rfl
    rw [h1]
    exact Nat.le_sub_of_add_le (Nat.le_of_lt h.2)
  · exact Nat.le_refl _

theorem skip_of_noLag (h : NoLag log r) : skip log r = r.readPos :=
  if_neg (fun hl => Nat.not_le.2 hl.2 h)

theorem readPos_le_length (h : Wf log r) : r.readPos ≤ log.length := by
  rcases wf_cases h with ⟨k, hk, rfl⟩ | ⟨k, v, hk, rfl⟩
  · exact hk
  · exact Nat.le_of_lt (List.getElem?_eq_some_iff.1 hk).1

theorem skip_le_length (h : Wf log r) : skip log r ≤ log.length := by
  unfold skip
  split
  · exact Nat.sub_le _ _
  · exact readPos_le_length h

/-- the `while self.peek.is_none()` loop reads one log entry, the one at `skip`: after a `Lagged` the
receiver stands at `log.length - CAP`, which is not behind any more, so the second `try_recv` is `Ok` -/
theorem fill_eq (h : Wf log r) : fill log r = peekAt log (skip log r) := by
  rcases wf_cases h with ⟨k, _, rfl⟩ | ⟨k, v, hk, rfl⟩
  · unfold fill tryRecv skip
    by_cases hl : k + CAP < log.length
    · have hc : ¬ (log.length - CAP + CAP < log.length) :=
        Nat.not_lt.2 (Nat.le_add_of_sub_le (Nat.le_refl _))
      have hlt : log.length - CAP < log.length := Nat.sub_lt (Nat.zero_lt_of_lt hl) (by decide)
      rw [if_pos hl, if_pos ⟨rfl, hl⟩]
      dsimp only
      rw [if_neg hc, peekAt_some (List.getElem?_eq_getElem hlt), List.getElem?_eq_getElem hlt]
    · rw [if_neg hl, if_neg fun c => hl c.2, readPos_none]
      cases hg : log[k]? with
      | none => rw [peekAt_none hg]
      | some v => rw [peekAt_some hg]
  · have hs : skip log ⟨k + 1, some v⟩ = k := if_neg (fun h => nomatch h.1)
    rw [hs, peekAt_some hk]
    rfl

theorem next_cases (h : Wf log r) (m : Nat) :
    (∃ v, log[skip log r]? = some v ∧ v.size ≤ m ∧
        nextIfSmaller log r m = (some v, ⟨skip log r + 1, none⟩)) ∨
    ((∀ v, log[skip log r]? = some v → ¬ v.size ≤ m) ∧
        nextIfSmaller log r m = (none, peekAt log (skip log r))) := by
  unfold nextIfSmaller
  rw [fill_eq h]
  cases hg : log[skip log r]? with
  | none =>
    rw [peekAt_none hg]
    exact .inr ⟨fun _ hv => (nomatch hv), rfl⟩
  | some v =>
    rw [peekAt_some hg]
    by_cases hs : v.size ≤ m
    · exact .inl ⟨v, rfl, hs, by simp only [if_pos hs]⟩
    · exact .inr ⟨fun w hw => by cases hw; exact hs, by simp only [if_neg hs]⟩

theorem pending_eq_drop (log : List Item) (r : Rx) (h : Wf log r) : pending log r = log.drop r.readPos := by
  rcases wf_cases h with ⟨k, _, rfl⟩ | ⟨k, v, hk, rfl⟩
  · rfl
  · rw [← peekAt_some hk, pending_peekAt, readPos_peekAt]

def popFit (m : Nat) : List Item → Option Item × List Item
  | [] => (none, [])
  | v :: rest => if v.size ≤ m then (some v, rest) else (none, v :: rest)

theorem next_pops (h : Wf log r) (m : Nat) :
    ((nextIfSmaller log r m).1, pending log (nextIfSmaller log r m).2) = popFit m (log.drop (skip log r)) := by
  rcases next_cases h m with ⟨w, hw, hs, e⟩ | ⟨hs, e⟩ <;> rw [e]
  · rw [List.drop_eq_getElem?_toList_append, hw]
    exact (if_pos hs).symm
  · rw [pending_peekAt]
    cases hd : log.drop (skip log r) with
    | nil => rfl
    | cons v rest => exact (if_neg (hs v (by rw [← List.head?_drop, hd]; rfl))).symm

/-- **`next_if_smaller` is "pop the head of the pending list if it fits"**, as long as the receiver has not lagged -/
theorem next_refines_queue (h : Wf log r) (hn : NoLag log r) (m : Nat) :
    ((nextIfSmaller log r m).1, pending log (nextIfSmaller log r m).2) = popFit m (pending log r) := by
  rw [pending_eq_drop log r h, ← skip_of_noLag hn]
  exact next_pops h m

theorem wf_next (h : Wf log r) (m : Nat) : Wf log (nextIfSmaller log r m).2 := by
  rcases next_cases h m with ⟨v, hv, _, e⟩ | ⟨_, e⟩ <;> rw [e]
  · exact wf_none (List.getElem?_eq_some_iff.1 hv).1
  · exact wf_peekAt (skip_le_length h)

theorem pos_le_readPos_succ (r : Rx) : r.pos ≤ r.readPos + 1 := by
  unfold Rx.readPos
  split
  · exact Nat.le_add_of_sub_le (Nat.le_refl _)
  · exact Nat.le_succ _

theorem noLag_next (h : Wf log r) (hn : NoLag log r) (m : Nat) : NoLag log (nextIfSmaller log r m).2 := by
  have hp : log.length ≤ r.readPos + 1 + CAP :=
    Nat.le_trans hn (Nat.add_le_add_right (pos_le_readPos_succ r) CAP)
  rcases next_cases h m with ⟨v, _, _, e⟩ | ⟨_, e⟩ <;> rw [e, skip_of_noLag hn]
  · exact hp
  · cases hg : log[r.readPos]? with
    | none =>
      rw [peekAt_none hg]
      exact Nat.le_trans (List.getElem?_eq_none_iff.1 hg) (Nat.le_add_right _ _)
    | some v =>
      rw [peekAt_some hg]
      exact hp

theorem next_fits (log : List Item) (r : Rx) (m : Nat) (v : Item) (h : (nextIfSmaller log r m).1 = some v) :
    v.size ≤ m := by
  unfold nextIfSmaller at h
  split at h
  · split at h
    · cases h
      assumption
    · cases h
  · cases h

theorem wf_append (l : List Item) (h : Wf log r) : Wf (log ++ l) r := by
  rcases wf_cases h with ⟨k, hk, rfl⟩ | ⟨k, v, hk, rfl⟩
  · exact wf_none (by rw [List.length_append]; exact Nat.le_add_right_of_le hk)
  · exact wf_some (by rw [List.getElem?_append_left (List.getElem?_eq_some_iff.1 hk).1]; exact hk)

/-- **forwarding appends to every forwarder's pending list** -/
theorem pending_append (log : List Item) (r : Rx) (l : List Item) (h : Wf log r) :
    pending (log ++ l) r = pending log r ++ l := by
  unfold pending
  rw [List.drop_append_of_le_length h.1, List.append_assoc]

end Statime.Fwd
