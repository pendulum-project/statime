import StatimeModel.Lemmas.ForwarderL
import StatimeModel.Lemmas.Tlv
import StatimeModel.Model.Port
/-
The forwarding loop of `send_announce` in its three forms: as the port model runs it (`fwdLoop`, over the host's
queue as a list, appending bytes), run against the daemon's `TlvForwarder` (`drain`, over `nextIfSmaller`), and as
a function of the queue alone (`drainList`: take the head while it fits; a kept head uses up its size; stop at the
first head that does not fit). What the loop does is said once, about `drainList` (`Drained`); the other two are
shown to compute it.
-/
namespace Statime.Fwd

section
variable {α β : Type} (fits : Nat → Nat → Bool) (size : α → Nat) (keep : α → Bool)

def used (ts : List α) : Nat := ((ts.filter keep).map size).sum

/-- returns (the prefix it consumes, what it leaves) -/
def drainList : List α → Nat → List α × List α
  | [], _ => ([], [])
  | x :: xs, m =>
    if fits (size x) m then (drainList xs (m - if keep x then size x else 0)).map (x :: ·) id
    else ([], x :: xs)

structure Drained (l : List α) (m : Nat) (taken rest : List α) : Prop where
  split : l = taken ++ rest
  room : used size keep taken ≤ m
  blocked : ∀ x xs, rest = x :: xs → fits (size x) (m - used size keep taken) = false

variable {fits size keep}

theorem used_cons (x : α) (ts : List α) :
    used size keep (x :: ts) = (if keep x = true then size x else 0) + used size keep ts := by
  unfold used
  rw [List.filter_cons]
  split
  · rfl
  · exact (Nat.zero_add _).symm

/-- `hfit`: an item that fits is no larger than the room (the only fact about `fits` that is needed) -/
theorem drainList_drained (hfit : ∀ s m, fits s m = true → s ≤ m) : ∀ (l : List α) (m : Nat),
    Drained fits size keep l m (drainList fits size keep l m).1 (drainList fits size keep l m).2 := by
  intro l
  induction l with
  | nil => exact fun m => ⟨rfl, Nat.zero_le _, fun _ _ h => nomatch h⟩
  | cons x xs ih =>
    intro m
    rw [drainList]
    by_cases hf : fits (size x) m = true
    · have hc : (if keep x = true then size x else 0) ≤ m := by
        split
        · exact hfit _ _ hf
        · exact Nat.zero_le _
      obtain ⟨h1, h2, h3⟩ := ih (m - if keep x = true then size x else 0)
      rw [if_pos hf]
      refine ⟨congrArg (x :: ·) h1, ?_, ?_⟩
      · rw [Prod.map_fst, used_cons]
        exact Nat.add_le_of_le_sub' hc h2
      · rw [Prod.map_fst, used_cons, Nat.sub_add_eq]
        exact h3
    · rw [if_neg hf]
      refine ⟨rfl, Nat.zero_le _, fun y ys e => ?_⟩
      cases e
      exact Bool.eq_false_iff.2 hf

theorem drainList_map (f : α → β) {sb : β → Nat} {kb : β → Bool} (hs : ∀ x, sb (f x) = size x)
    (hk : ∀ x, kb (f x) = keep x) : ∀ (l : List α) (m : Nat),
    drainList fits sb kb (l.map f) m = (drainList fits size keep l m).map (List.map f) (List.map f) := by
  intro l
  induction l with
  | nil => exact fun _ => rfl
  | cons x xs ih =>
    intro m
    rw [List.map_cons, drainList, drainList, hs, hk]
    by_cases h1 : fits (size x) m = true
    · rw [if_pos h1, if_pos h1, ih]
      rfl
    · rw [if_neg h1, if_neg h1]
      rfl

end

/-- the loop `while let Some(tlv) = provider.next_if_smaller(margin)` of `send_announce`, run against a forwarder -/
def drain (log : List Item) (keep : Item → Bool) : Nat → Rx → Nat → List Item → List Item × Rx × Nat
  | 0, r, m, acc => (acc, r, m)
  | fuel + 1, r, m, acc =>
    match nextIfSmaller log r m with
    | (some v, r') => if keep v then drain log keep fuel r' (m - v.size) (acc ++ [v]) else drain log keep fuel r' m acc
    | (none, r') => (acc, r', m)

end Statime.Fwd

namespace Statime
open Fwd

theorem fwdFits_true (size margin : Nat) : fwdFits true size margin = decide (size ≤ margin) := by
  simp only [fwdFits, Bool.true_and, ← Bool.decide_or, Nat.le_iff_lt_or_eq]

theorem fwdFits_le {loose : Bool} {size margin : Nat} (h : fwdFits loose size margin = true) : size ≤ margin := by
  unfold fwdFits at h
  simp only [Bool.or_eq_true, decide_eq_true_eq, Bool.and_eq_true] at h
  omega

namespace Fwd

variable {log : List Item} {keep : Item → Bool} {r r' : Rx} {m : Nat} {v : Item}

theorem drain_some (h : nextIfSmaller log r m = (some v, r')) (fuel : Nat) (acc : List Item) :
    drain log keep (fuel + 1) r m acc =
      drain log keep fuel r' (m - if keep v = true then v.size else 0) (if keep v = true then acc ++ [v] else acc) := by
  rw [drain, h]
  show (if keep v = true then _ else _) = _
  cases keep v <;> rfl

theorem drain_none (h : nextIfSmaller log r m = (none, r')) (fuel : Nat) (acc : List Item) :
    drain log keep (fuel + 1) r m acc = (acc, r', m) := by
  rw [drain, h]

/-- **the port's loop over a forwarder is `drainList` over the forwarder's pending list**, and what the
forwarder still holds afterwards is what `drainList` left (no lag; enough fuel for the whole list) -/
theorem drain_eq_drainList (log : List Item) (keep : Item → Bool) :
    ∀ (fuel : Nat) (r : Rx) (m : Nat) (acc : List Item), Wf log r → NoLag log r →
      (pending log r).length < fuel →
      (drain log keep fuel r m acc).1 =
        acc ++ (drainList (fwdFits true) Item.size keep (pending log r) m).1.filter keep ∧
      pending log (drain log keep fuel r m acc).2.1 = (drainList (fwdFits true) Item.size keep (pending log r) m).2 ∧
      (drain log keep fuel r m acc).2.2 =
        m - used Item.size keep (drainList (fwdFits true) Item.size keep (pending log r) m).1 := by
  intro fuel
  induction fuel with
  | zero =>
    intro r m acc _ _ hlen
    cases hlen
  | succ fuel ih =>
    intro r m acc hw hn hlen
    have hq := next_refines_queue hw hn m
    generalize pending log r = l at hq hlen ⊢
    cases l with
    | nil =>
      obtain ⟨ho, hl⟩ := Prod.mk.inj hq
      rw [drain_none (Prod.ext ho rfl)]
      exact ⟨(List.append_nil _).symm, hl, rfl⟩
    | cons v rest =>
      rw [drainList, fwdFits_true]
      rw [popFit] at hq
      by_cases hs : v.size ≤ m
      · obtain ⟨ho, hl⟩ := Prod.mk.inj (hq.trans (if_pos hs))
        obtain ⟨h1, h2, h3⟩ := ih (nextIfSmaller log r m).2 (m - if keep v = true then v.size else 0)
          (if keep v = true then acc ++ [v] else acc) (wf_next hw m) (noLag_next hw hn m)
          (hl ▸ Nat.lt_of_succ_lt_succ hlen)
        rw [hl] at h1 h2 h3
        rw [drain_some (Prod.ext ho rfl), if_pos (decide_eq_true hs), Prod.map_fst, Prod.map_snd, used_cons,
          Nat.sub_add_eq, List.filter_cons]
        refine ⟨h1.trans ?_, h2, h3⟩
        cases keep v
        · rfl
        · exact List.append_assoc ..
      · obtain ⟨ho, hl⟩ := Prod.mk.inj (hq.trans (if_neg hs))
        rw [drain_none (Prod.ext ho rfl), if_neg (fun h => hs (of_decide_eq_true h))]
        exact ⟨(List.append_nil _).symm, hl, rfl⟩

end Fwd

/-- is a consumed queue item actually forwarded? (sent by the current parent; not PATH_TRACE when the option is on) -/
def fwdKeep (parent : PortId) (pte : Bool) (t : FwdTlv) : Bool :=
  decide (t.sender = parent) && !(pte && decide (t.tlv.ty = TLV_PATH_TRACE))

/-- `Fwd.used` at the sizes and the keep test of the port's loop (by unfolding, which `fwdLoop_spec` relies on) -/
def fwdUsed (parent : PortId) (pte : Bool) (ts : List FwdTlv) : Nat :=
  ((ts.filter (fwdKeep parent pte)).map (fun t => t.tlv.wireSize)).sum

theorem fwdKeep_iff {parent : PortId} {pte : Bool} {t : FwdTlv} :
    fwdKeep parent pte t = true ↔ t.sender = parent ∧ ¬ (pte = true ∧ t.tlv.ty = TLV_PATH_TRACE) := by
  unfold fwdKeep
  rw [Bool.and_eq_true, Bool.not_eq_true', ← Bool.not_eq_true, Bool.and_eq_true, decide_eq_true_iff,
    decide_eq_true_iff]

/-- one turn of the loop, with the nested tests of `fwdLoop` on sender and type as the one `fwdKeep` -/
theorem fwdLoop_cons (parent : PortId) (pte loose : Bool) (fuel : Nat) (t : FwdTlv) (rest : List FwdTlv)
    (margin : Nat) (acc : List UInt8) :
    fwdLoop parent pte loose (fuel + 1) (t :: rest) margin acc =
      if fwdFits loose t.tlv.wireSize margin = true then
        if fwdKeep parent pte t = true then
          fwdLoop parent pte loose fuel rest (margin - t.tlv.wireSize) (acc ++ t.tlv.bytes)
        else fwdLoop parent pte loose fuel rest margin acc
      else (acc, t :: rest) := by
  rw [fwdLoop]
  by_cases hf : fwdFits loose t.tlv.wireSize margin = true
  · rw [if_pos hf, if_pos hf]
    by_cases hk : fwdKeep parent pte t = true
    · obtain ⟨hs, hpt⟩ := fwdKeep_iff.1 hk
      rw [if_pos hk, if_neg (fun h => h hs.symm), if_neg hpt]
    · rw [if_neg hk]
      by_cases hp : parent ≠ t.sender
      · rw [if_pos hp]
      · rw [if_neg hp, if_pos (Decidable.not_not.1 fun hpt => hk (fwdKeep_iff.2 ⟨(Decidable.not_not.1 hp).symm, hpt⟩))]
  · rw [if_neg hf, if_neg hf]

/-- **the forwarding loop of the port model is `drainList`**, for either provider: the bytes appended are the kept
ones of the consumed TLVs, in queue order -/
theorem fwdLoop_eq_drainList (parent : PortId) (pte loose : Bool) :
    ∀ (fuel : Nat) (q : List FwdTlv) (margin : Nat) (acc : List UInt8), q.length < fuel →
      fwdLoop parent pte loose fuel q margin acc =
        (acc ++ (((drainList (fwdFits loose) (·.tlv.wireSize) (fwdKeep parent pte) q margin).1.filter
            (fwdKeep parent pte)).map (fun t => t.tlv)).flatMap Tlv.bytes,
         (drainList (fwdFits loose) (·.tlv.wireSize) (fwdKeep parent pte) q margin).2) := by
  intro fuel
  induction fuel with
  | zero =>
    intro q _ _ h
    cases h
  | succ fuel ih =>
    intro q margin acc hlen
    cases q with
    | nil => exact Prod.ext (List.append_nil _).symm rfl
    | cons t rest =>
      have hl : rest.length < fuel := Nat.lt_of_succ_lt_succ hlen
      rw [fwdLoop_cons, drainList]
      by_cases hf : fwdFits loose t.tlv.wireSize margin = true
      · rw [if_pos hf, if_pos hf, Prod.map_fst, Prod.map_snd, List.filter_cons]
        by_cases hk : fwdKeep parent pte t = true
        · rw [if_pos hk, if_pos hk, if_pos hk, ih _ _ _ hl, List.append_assoc]
          rfl
        · rw [if_neg hk, if_neg hk, if_neg hk, ih _ _ _ hl]
          rfl
      · rw [if_neg hf, if_neg hf]
        exact Prod.ext (List.append_nil _).symm rfl

/-- **Specification of the forwarding loop.** It consumes a prefix `taken` of the queue and returns the rest; the
bytes appended are exactly the serializations of the consumed TLVs that are forwarded, in queue order; they fit
the room; and whatever is left starts with a TLV that does not fit the room that remains. -/
theorem fwdLoop_spec (parent : PortId) (pte loose : Bool) :
    ∀ (fuel : Nat) (q : List FwdTlv) (margin : Nat) (acc : List UInt8), q.length < fuel →
    ∃ taken : List FwdTlv,
      q = taken ++ (fwdLoop parent pte loose fuel q margin acc).2 ∧
      (fwdLoop parent pte loose fuel q margin acc).1 =
        acc ++ ((taken.filter (fwdKeep parent pte)).map (fun t => t.tlv)).flatMap Tlv.bytes ∧
      fwdUsed parent pte taken ≤ margin ∧
      (∀ t rest, (fwdLoop parent pte loose fuel q margin acc).2 = t :: rest →
        fwdFits loose t.tlv.wireSize (margin - fwdUsed parent pte taken) = false) := by
  intro fuel q margin acc hq
  rw [fwdLoop_eq_drainList parent pte loose fuel q margin acc hq]
  have d := drainList_drained (size := fun t : FwdTlv => t.tlv.wireSize) (keep := fwdKeep parent pte)
    (fun _ _ => fwdFits_le (loose := loose)) q margin
  exact ⟨_, d.split, rfl, d.room, d.blocked⟩

/-- `fwdKeep` with the equation on the sender the other way round, as `send_announce` writes it -/
def keepFwd (parent : PortId) (pathTraceEnabled : Bool) (t : FwdTlv) : Bool :=
  decide (parent = t.sender) && !(pathTraceEnabled && decide (t.tlv.ty = TLV_PATH_TRACE))

theorem keepFwd_eq_fwdKeep (parent : PortId) (pt : Bool) (t : FwdTlv) : keepFwd parent pt t = fwdKeep parent pt t := by
  unfold keepFwd fwdKeep
  rw [decide_eq_decide.2 (eq_comm (a := parent))]

end Statime
