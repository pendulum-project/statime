import StatimeModel.Lemmas.Roles
/-
The frame discipline (C10, C15): what an emitted frame must look like (`FrameOK`), that one call emits at most one,
and that a sequence counter moves exactly with a frame of its type (`Frames`); the exact results of the timer
handlers, one equation per branch. The discipline is proved of every handler in `PortStep.lean`.
-/
namespace Statime

def Out.frame : Out → Option (List UInt8)
  | .sendEvent _ b _ => some b
  | .sendGeneral b _ => some b
  | _ => none

def Out.isEvent : Out → Bool
  | .sendEvent .. => true
  | _ => false

structure Quiet (p p' : Port) (outs : List Out) : Prop where
  noFrame : ∀ o ∈ outs, o.frame = none
  seqs : p'.seqs = p.seqs
  id : p'.id = p.id
  cfg : p'.cfg = p.cfg

theorem Out.frame_of_plain {o : Out} (h : o.plain) : o.frame = none := by
  cases o with
  | sendEvent | sendGeneral | measurement => exact h.elim
  | _ => rfl

theorem Touch.quiet {p p' : Port} {outs : List Out} (h : Touch p p' outs) : Quiet p p' outs := by
  refine ⟨fun o ho => ?_, by rw [h.rest]; rfl, by rw [h.rest], by rw [h.rest]⟩
  rcases h.outs o ho with rfl | ⟨m, rfl, _⟩ <;> rfl

theorem msgFollowUp_ok (d : DefaultDS) (pid : PortId) (seq ts minor : Nat) (m : Msg)
    (h : msgFollowUp d pid seq ts minor = .ok m) :
    ∃ w, timeToWire ts = some w ∧
      m = { header := { baseHeader d pid seq minor with correction := timeSubnano ts }, body := .followUp w, suffix := [] } :=
  liftOv_bind_ok h

theorem msgDelayResp_ok (req : Header) (pid : PortId) (delayLog : Int) (ts : Nat) (m : Msg)
    (h : msgDelayResp req pid delayLog ts = .ok m) :
    ∃ w, timeToWire ts = some w ∧
      m = { header := { req with flags := { req.flags with twoStep := false }, src := pid,
                                 correction := clampI64 (req.correction + timeSubnano ts), logInterval := delayLog },
            body := .delayResp w req.src, suffix := [] } :=
  liftOv_bind_ok h

theorem msgPdelayResp_ok (d : DefaultDS) (pid : PortId) (req : Header) (ts minor : Nat) (m : Msg)
    (h : msgPdelayResp d pid req ts minor = .ok m) :
    ∃ w, timeToWire ts = some w ∧
      m = { header := { baseHeader d pid req.seq minor with flags := { twoStep := true : Flags }, correction := req.correction },
            body := .pdelayResp w req.src, suffix := [] } :=
  liftOv_bind_ok h

theorem msgPdelayRespFu_ok (d : DefaultDS) (pid requestor : PortId) (seq ts minor : Nat) (m : Msg)
    (h : msgPdelayRespFu d pid requestor seq ts minor = .ok m) :
    ∃ w, timeToWire ts = some w ∧
      m = { header := baseHeader d pid seq minor, body := .pdelayRespFu w requestor, suffix := [] } :=
  liftOv_bind_ok h

theorem sendSync_master {p : Port} (s : InstState) (hm : p.st = .master) :
    p.sendSync s = .ok ({ p with syncSeq := nextSeq p.syncSeq },
      [.reset .sync (.exact (intervalNs p.cfg.syncLog)),
       .sendEvent (.sync p.syncSeq) (encode (msgSync s.dflt p.id p.syncSeq p.cfg.minorVersion)) false]) := by
  unfold Port.sendSync; rw [if_pos hm]

theorem sendSync_other {p : Port} (s : InstState) (hm : p.st ≠ .master) : p.sendSync s = .ok (p, []) := by
  unfold Port.sendSync; rw [if_neg hm]

theorem sendAnnounce_master {p : Port} (s : InstState) (q : List FwdTlv) (loose : Bool) (hm : p.st = .master) :
    p.sendAnnounce s q loose = .ok ({ p with annSeq := nextSeq p.annSeq },
      [.reset .announce (.exact (intervalNs p.cfg.announceLog)),
       .sendGeneral (encode (p.announceMsg s (p.announceFwd s q loose).1)) false], (p.announceFwd s q loose).2) := by
  unfold Port.sendAnnounce; rw [if_pos hm]

theorem sendAnnounce_other {p : Port} (s : InstState) (q : List FwdTlv) (loose : Bool) (hm : p.st ≠ .master) :
    p.sendAnnounce s q loose = .ok (p, [], q) := by
  unfold Port.sendAnnounce; rw [if_neg hm]

theorem handleSyncTs_master {p : Port} (s : InstState) (id ts : Nat) (hm : p.st = .master) :
    p.handleSyncTs s id ts =
      msgFollowUp s.dflt p.id id ts p.cfg.minorVersion >>= fun m => .ok (p, [.sendGeneral (encode m) false]) := by
  unfold Port.handleSyncTs; rw [if_pos hm]

theorem handleSyncTs_other {p : Port} (s : InstState) (id ts : Nat) (hm : p.st ≠ .master) :
    p.handleSyncTs s id ts = .ok (p, []) := by
  unfold Port.handleSyncTs; rw [if_neg hm]

theorem handleDelayReq_master {p : Port} (h : Header) (ts : Nat) (hm : p.st = .master) :
    p.handleDelayReq h ts =
      msgDelayResp h p.id p.cfg.delayLog ts >>= fun m => .ok (p, [.sendGeneral (encode m) false]) := by
  unfold Port.handleDelayReq; rw [if_pos hm]

theorem handleDelayReq_other {p : Port} (h : Header) (ts : Nat) (hm : p.st ≠ .master) :
    p.handleDelayReq h ts = .ok (p, []) := by
  unfold Port.handleDelayReq; rw [if_neg hm]

theorem sendDelayRequest_p2p {p : Port} (s : InstState) (hp : p.cfg.p2p = true) :
    p.sendDelayRequest s = .ok
      ({ p with pdelaySeq := nextSeq p.pdelaySeq, peer := .measuring p.pdelaySeq none none none none none },
       [.reset .delay .rand,
        .sendEvent (.pdelayReq p.pdelaySeq) (encode (msgPdelayReq s.dflt p.id p.pdelaySeq p.cfg.minorVersion)) true]) := by
  unfold Port.sendDelayRequest; rw [if_pos hp]

theorem sendDelayRequest_slave {p : Port} (s : InstState) {remote : PortId} {sy : SyncSt} {dl : DelaySt} {last : Option Int}
    (hp : p.cfg.p2p = false) (hst : p.st = .slave remote sy dl last) :
    p.sendDelayRequest s = .ok
      ({ p with delaySeq := nextSeq p.delaySeq, st := .slave remote sy (.measuring p.delaySeq none none) last },
       [.reset .delay .rand,
        .sendEvent (.delayReq p.delaySeq) (encode (msgDelayReq s.dflt p.id p.delaySeq p.cfg.minorVersion)) false]) := by
  unfold Port.sendDelayRequest; rw [hp, hst, if_neg Bool.false_ne_true]

theorem sendDelayRequest_idle {p : Port} (s : InstState) (hp : p.cfg.p2p = false) (hns : p.st.isSlave = false) :
    p.sendDelayRequest s = .ok (p, []) := by
  unfold Port.sendDelayRequest
  rw [hp]
  cases hst : p.st <;> first | rfl | (rw [hst] at hns; cases hns)

theorem handleReceiptTimer_faulty {p : Port} (s : InstState) (hf : p.st = .faulty) :
    p.handleReceiptTimer s = (p, [.reset .receipt .rand]) := by
  unfold Port.handleReceiptTimer; rw [if_pos hf]

theorem handleReceiptTimer_toListening {p : Port} {s : InstState} (hf : p.st ≠ .faulty) (hso : s.dflt.slaveOnly = true)
    (hst : p.st ≠ .listening) :
    p.handleReceiptTimer s = ((p.setState .listening).1, (p.setState .listening).2 ++ [.reset .receipt .rand]) := by
  unfold Port.handleReceiptTimer; rw [if_neg hf, if_pos hso, if_pos hst]

theorem handleReceiptTimer_listening {p : Port} {s : InstState} (hso : s.dflt.slaveOnly = true) (hst : p.st = .listening) :
    p.handleReceiptTimer s = (p, [.reset .receipt .rand]) := by
  unfold Port.handleReceiptTimer
  rw [if_neg (by rw [hst]; exact fun e => nomatch e), if_pos hso, if_neg (not_not_intro hst)]

theorem handleReceiptTimer_toMaster {p : Port} {s : InstState} (hf : p.st ≠ .faulty) (hso : s.dflt.slaveOnly = false)
    (hst : p.st ≠ .master) :
    p.handleReceiptTimer s =
      ((p.setState .master).1, (p.setState .master).2 ++ [.reset .announce (.exact 0), .reset .sync (.exact 0)]) := by
  unfold Port.handleReceiptTimer; rw [if_neg hf, if_neg (by rw [hso]; exact Bool.false_ne_true), if_pos hst]

theorem handleReceiptTimer_master {p : Port} {s : InstState} (hso : s.dflt.slaveOnly = false) (hst : p.st = .master) :
    p.handleReceiptTimer s = (p, [.reset .announce (.exact 0), .reset .sync (.exact 0)]) := by
  unfold Port.handleReceiptTimer
  rw [if_neg (by rw [hst]; exact fun e => nomatch e), if_neg (by rw [hso]; exact Bool.false_ne_true),
    if_neg (not_not_intro hst)]

theorem handleReceiptTimer_fst (p : Port) (s : InstState) :
    ∃ st, (st = p.st ∨ st.isSlave = false) ∧ (p.handleReceiptTimer s).1 = { p with st := st } := by
  have stay : ∃ st, (st = p.st ∨ st.isSlave = false) ∧ p = { p with st := st } := ⟨p.st, .inl rfl, rfl⟩
  unfold Port.handleReceiptTimer
  split
  · exact stay
  · split
    · split
      · exact ⟨.listening, .inr rfl, rfl⟩
      · exact stay
    · split
      · exact ⟨.master, .inr rfl, rfl⟩
      · exact stay

/-- the counter a message type is numbered from (`none`: the number echoes a request or a Sync) -/
def Port.seqOf (p : Port) : MsgType → Option Nat
  | .announce => some p.annSeq
  | .sync => some p.syncSeq
  | .delayReq => some p.delaySeq
  | .pdelayReq => some p.pdelaySeq
  | _ => none

def FrameOK (p : Port) (s : InstState) (o : Out) : Prop :=
  ∀ b, o.frame = some b → ∃ m, b = encode m ∧ m.header.src = p.id ∧ m.header.domain = s.dflt.domain ∧
    m.header.sdoId = s.dflt.sdoId ∧ (∀ n, p.seqOf m.body.type = some n → m.header.seq = n)

def Port.bump (p : Port) : Option MsgType → Nat × Nat × Nat × Nat
  | some .announce => (nextSeq p.annSeq, p.syncSeq, p.delaySeq, p.pdelaySeq)
  | some .sync => (p.annSeq, nextSeq p.syncSeq, p.delaySeq, p.pdelaySeq)
  | some .delayReq => (p.annSeq, p.syncSeq, nextSeq p.delaySeq, p.pdelaySeq)
  | some .pdelayReq => (p.annSeq, p.syncSeq, p.delaySeq, nextSeq p.pdelaySeq)
  | _ => p.seqs

theorem bump_of_seqOf_none {p : Port} {ty : MsgType} (h : p.seqOf ty = none) : p.bump (some ty) = p.seqs := by
  cases ty with
  | announce | sync | delayReq | pdelayReq => cases h
  | _ => rfl

def sentFrames (outs : List Out) : List (List UInt8) := outs.filterMap Out.frame

def frameType (b : List UInt8) : Option MsgType := MsgType.ofNibble (byteAt b 0 % 16)

theorem frameType_encode (m : Msg) : frameType (encode m) = some m.body.type := encode_type m

theorem Out.sendType_eq (o : Out) : o.sendType = o.frame.bind frameType := by
  cases o <;> rfl

def Frames (p : Port) (s : InstState) (p' : Port) (outs : List Out) : Prop :=
  (∀ o ∈ outs, FrameOK p s o) ∧
  ((sentFrames outs = [] ∧ p'.seqs = p.seqs) ∨ ∃ b, sentFrames outs = [b] ∧ p'.seqs = p.bump (frameType b)) ∧
  p'.id = p.id ∧ p'.cfg = p.cfg

theorem Frames.count {p p' : Port} {s : InstState} {outs : List Out} (h : Frames p s p' outs) :
    (sentFrames outs = [] ∧ p'.seqs = p.seqs) ∨ ∃ b, sentFrames outs = [b] ∧ p'.seqs = p.bump (frameType b) := h.2.1
theorem Frames.id {p p' : Port} {s : InstState} {outs : List Out} (h : Frames p s p' outs) : p'.id = p.id := h.2.2.1

theorem sentFrames_nil_of (outs : List Out) (h : ∀ o ∈ outs, o.frame = none) : sentFrames outs = [] :=
  List.filterMap_eq_nil_iff.2 h

theorem frames_of_quiet (p p' : Port) (s : InstState) (outs : List Out) (h : Quiet p p' outs) : Frames p s p' outs :=
  ⟨fun o ho b hb => (by rw [h.noFrame o ho] at hb; cases hb), .inl ⟨sentFrames_nil_of outs h.noFrame, h.seqs⟩, h.id, h.cfg⟩

theorem frames_one {p p' : Port} {s : InstState} {pre : List Out} {o : Out} {b : List UInt8}
    (hpre : ∀ x ∈ pre, x.frame = none) (ho : o.frame = some b) (hok : FrameOK p s o)
    (hs : p'.seqs = p.bump (frameType b)) (hid : p'.id = p.id) (hcfg : p'.cfg = p.cfg) :
    Frames p s p' (pre ++ [o]) := by
  refine ⟨fun x hx => ?_, Or.inr ⟨b, ?_, hs⟩, hid, hcfg⟩
  · rcases List.mem_append.1 hx with hh | hh
    · exact fun b hb => by rw [hpre x hh] at hb; cases hb
    · rw [List.mem_singleton.1 hh]; exact hok
  · unfold sentFrames
    rw [List.filterMap_append, List.filterMap_eq_nil_iff.2 hpre]
    simp only [List.filterMap_cons, ho, List.filterMap_nil, List.nil_append]

end Statime
