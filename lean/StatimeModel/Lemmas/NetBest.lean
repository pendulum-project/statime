import StatimeModel.Lemmas.NetL
/-
Towards "the best clock is the only grandmaster": fixed points of plain networks (`Plain`).
-/
namespace Statime.Net
open Statime

/-! ### on data that is grandmaster-consistent and not received by its own sender, `bestOf` / `ebestOf` return a minimum
of the comparison key -/

structure GoodAdvs (rc : Nat) (l : List Adv) : Prop where
  other : ∀ a ∈ l, a.sender ≠ rc
  cons : ∀ a ∈ l, ∀ b ∈ l, a.gm.id = b.gm.id → a.gm = b.gm

/-- the keys stand in exchanged order: the better data set is `.gt` for `compare` and has the smaller key -/
theorem cmpDS_compare_key (rc rp rp' : Nat) (a b : Adv) (ha : a.sender ≠ rc) (hb : b.sender ≠ rc) (hc : a.gm.id = b.gm.id → a.gm = b.gm) :
    ((a.cmpDS rc rp).compare (b.cmpDS rc rp')).asOrdering = keyCmp (b.cmpDS rc rp').key (a.cmpDS rc rp).key :=
  compare_asOrdering_key _ _ (Ne.symm ha) (Ne.symm hb) fun h =>
    have e : a.gm = b.gm := hc h
    ⟨congrArg Gm.p1 e, congrArg Gm.cls e, congrArg Gm.acc e, congrArg Gm.var e, congrArg Gm.p2 e⟩

theorem bestOf_min (rc rp : Nat) (l : List Adv) (hg : GoodAdvs rc l) (b : Adv) (h : bestOf rc rp l = some b) :
    b ∈ l ∧ ∀ a ∈ l, keyCmp (b.cmpDS rc rp).key (a.cmpDS rc rp).key ≠ .gt :=
  maxByG_keyMin (fun a : Adv => (a.cmpDS rc rp).key) _ (fun _ _ => CmpDS.key_length _)
    (fun a ha b hb => cmpDS_compare_key rc rp rp a b (hg.other a ha) (hg.other b hb) (hg.cons a ha b hb))
    ((bestOf_eq rc rp l).symm.trans h)

theorem ebestOf_min (c : NodeCfg) (erbests : List (Option Adv)) (hg : GoodAdvs c.id ((candsOf c erbests).map (·.1)))
    (g : Adv) (gj : Nat) (h : ebestOf c erbests = some (g, gj)) :
    (g, gj) ∈ candsOf c erbests ∧
    ∀ y ∈ candsOf c erbests, keyCmp (g.cmpDS c.id (gj + 1)).key (y.1.cmpDS c.id (y.2 + 1)).key ≠ .gt :=
  have hS : ∀ y ∈ candsOf c erbests, y.1 ∈ (candsOf c erbests).map (·.1) := fun _ hy => List.mem_map_of_mem hy
  maxByG_keyMin (fun a : Adv × Nat => (a.1.cmpDS c.id (a.2 + 1)).key) _ (fun _ _ => CmpDS.key_length _)
    (fun a ha b hb => cmpDS_compare_key c.id _ _ a.1 b.1 (hg.other _ (hS a ha)) (hg.other _ (hS b hb))
      (hg.cons _ (hS a ha) _ (hS b hb)))
    ((ebestOf_eq c erbests).symm.trans h)

/-- A *plain* network. `relay`: not slave-only and clockClass ≥ 128, so every instance yields to a better master and
passes that master's attributes on. `simple`: at most one port on a segment, so an instance never hears itself and
none of its ports is shadowed by another. `small`: stepsRemoved stays below the cut-off, so whatever is heard is
qualified. -/
structure Plain (net : Net) : Prop where
  relay : ∀ (x : Nat) (c : NodeCfg) (s : NodeSt), net[x]? = some (c, s) →
    c.alive = true ∧ c.slaveOnly = false ∧ 128 ≤ c.cls ∧ c.ports ≠ [] ∧ ∀ p ∈ c.ports, p.masterOnly = false ∧ p.attached = true
  ids : ∀ (x y : Nat) (cx : NodeCfg) (sx : NodeSt) (cy : NodeCfg) (sy : NodeSt),
    net[x]? = some (cx, sx) → net[y]? = some (cy, sy) → cx.id = cy.id → x = y
  simple : ∀ (x : Nat) (c : NodeCfg) (s : NodeSt) (i j : Nat) (pi pj : PortCfg),
    net[x]? = some (c, s) → c.ports[i]? = some pi → c.ports[j]? = some pj → pi.seg = pj.seg → i = j
  small : ∀ (x : Nat) (c : NodeCfg) (s : NodeSt), net[x]? = some (c, s) → s.steps < STEPS_CUTOFF

def Gm.key (g : Gm) : List Int := [g.p1, g.cls, g.acc, g.var, g.p2, g.id]

def IsBest (net : Net) (b : Nat) (cb : NodeCfg) (sb : NodeSt) : Prop :=
  net[b]? = some (cb, sb) ∧
  ∀ (y : Nat) (cy : NodeCfg) (sy : NodeSt), net[y]? = some (cy, sy) → keyCmp cb.ownGm.key cy.ownGm.key ≠ .gt

def Linked (net : Net) (u v : Nat) : Prop :=
  ∃ (cu : NodeCfg) (su : NodeSt) (cv : NodeCfg) (sv : NodeSt) (i j : Nat) (pi pj : PortCfg),
    net[u]? = some (cu, su) ∧ net[v]? = some (cv, sv) ∧ cu.ports[i]? = some pi ∧ cv.ports[j]? = some pj ∧ pi.seg = pj.seg

inductive Reach (net : Net) (u : Nat) : Nat → Prop
  | refl : Reach net u u
  | step {v w : Nat} : Reach net u v → Linked net v w → Reach net u w

section
variable {net : Net} {x : Nat} {c : NodeCfg} {s : NodeSt}

theorem IsBest.node {b : Nat} {cb : NodeCfg} {sb : NodeSt} (h : IsBest net b cb sb) : net[b]? = some (cb, sb) := h.1

theorem IsBest.le {b : Nat} {cb : NodeCfg} {sb : NodeSt} (h : IsBest net b cb sb) (hx : net[x]? = some (c, s)) :
    keyCmp cb.ownGm.key c.ownGm.key ≠ .gt :=
  h.2 x c s hx

theorem Plain.alive (hp : Plain net) (hx : net[x]? = some (c, s)) : c.alive = true := (hp.relay x c s hx).1

theorem Plain.notSlaveOnly (hp : Plain net) (hx : net[x]? = some (c, s)) : c.slaveOnly = false := (hp.relay x c s hx).2.1

theorem Plain.high (hp : Plain net) (hx : net[x]? = some (c, s)) : ¬(1 ≤ c.cls ∧ c.cls ≤ 127) :=
  fun h => absurd (Nat.le_trans (hp.relay x c s hx).2.2.1 h.2) (by decide)

theorem Plain.nonempty (hp : Plain net) (hx : net[x]? = some (c, s)) : ∃ p, c.ports[0]? = some p := by
  cases hc : c.ports with
  | nil => exact absurd hc (hp.relay x c s hx).2.2.2.1
  | cons p _ => exact ⟨p, rfl⟩

theorem Plain.notMasterOnly (hp : Plain net) (hx : net[x]? = some (c, s)) {j : Nat} {pc : PortCfg}
    (hj : c.ports[j]? = some pc) : pc.masterOnly = false :=
  ((hp.relay x c s hx).2.2.2.2 pc (List.mem_of_getElem? hj)).1

theorem Plain.attached (hp : Plain net) (hx : net[x]? = some (c, s)) {j : Nat} {pc : PortCfg}
    (hj : c.ports[j]? = some pc) : pc.attached = true :=
  ((hp.relay x c s hx).2.2.2.2 pc (List.mem_of_getElem? hj)).2

theorem Plain.masterOn (hp : Plain net) (hx : net[x]? = some (c, s)) {k : Nat} {pc : PortCfg}
    (hk : c.ports[k]? = some pc) (hm : s.ports[k]? = some PSt.master) : MasterOn net pc.seg x k c s pc :=
  ⟨hx, hp.alive hx, hk, rfl, hp.attached hx hk, getD_of_getElem? hm⟩

theorem Plain.heard (hp : Plain net) (hx : net[x]? = some (c, s)) {j : Nat} {pc : PortCfg} (hj : c.ports[j]? = some pc)
    {a : Adv} (ha : a ∈ advsOn net pc.seg x j) :
    ∃ n k cn sn pcn, MasterOn net pc.seg n k cn sn pcn ∧ cn.id ≠ c.id ∧ a = advOf cn sn k := by
  obtain ⟨n, k, cn, sn, pcn, hm, hne, rfl⟩ := mem_advsOn.mp ha
  refine ⟨n, k, cn, sn, pcn, hm, fun hid => ?_, rfl⟩
  cases hp.ids n x cn sn c s hm.node hx hid
  cases hx.symm.trans hm.node
  exact hne ⟨rfl, hp.simple _ c s k j pcn pc hx hm.port hj hm.seg⟩

theorem Plain.heard_src (hp : Plain net) (hx : net[x]? = some (c, s)) {j : Nat} {pc : PortCfg} (hj : c.ports[j]? = some pc)
    {a : Adv} (ha : a ∈ advsOn net pc.seg x j) :
    ∃ (n : Nat) (cn : NodeCfg) (sn : NodeSt), net[n]? = some (cn, sn) ∧ a.gm = sn.gm ∧ a.sender ≠ c.id := by
  obtain ⟨n, k, cn, sn, _, hm, hid, rfl⟩ := hp.heard hx hj ha
  exact ⟨n, cn, sn, hm.node, advOf_gm cn sn k, advOf_sender cn sn k ▸ hid⟩

theorem erbestsOf_plain (hp : Plain net) (hx : net[x]? = some (c, s)) {j : Nat} {pc : PortCfg} (hj : c.ports[j]? = some pc) :
    (erbestsOf net x c)[j]? = some (bestOf c.id (j + 1) (advsOn net pc.seg x j)) := by
  rw [erbestsOf_getElem?, hj, Option.map_some]
  simp only [hp.attached hx hj, Bool.not_true, Bool.false_eq_true, if_false, Option.some.injEq]
  congr 1
  apply List.filter_eq_self.mpr
  intro a ha
  obtain ⟨n, _, cn, sn, _, hm, hid, rfl⟩ := hp.heard hx hj ha
  exact (qualified_iff c _).mpr ⟨hid, hp.small n cn sn hm.node⟩

theorem not_shadowed (hp : Plain net) (hx : net[x]? = some (c, s)) {j : Nat} {pc : PortCfg} (hj : c.ports[j]? = some pc) :
    shadowed c s j = false := by
  rw [Bool.eq_false_iff, Ne, shadowed, List.any_eq_true]
  rintro ⟨⟨pi, i⟩, hmem, hcond⟩
  simp only [decide_eq_true_eq, getD_of_getElem? hj] at hcond
  -- a lower-numbered port on the same segment would be the same port
  exact Nat.ne_of_lt hcond.1 (hp.simple x c s i j pi pc hx (List.mem_zipIdx_iff_getElem?.mp hmem) hj hcond.2.2.1)

/-- the state a plain instance gives a port with decision `d` -/
def stOf : Dec → PSt
  | .s _ => .slave
  | .p => .passive
  | _ => .master

theorem stOf_master {d : Dec} (h : stOf d = .master) : d = .gm ∨ d = .m3 := by
  cases d with
  | gm => exact .inl rfl
  | m3 => exact .inr rfl
  | p => cases h
  | s a => cases h

/-- no slave-only instance, no shadowed port -/
theorem portOf_plain (hp : Plain net) (hx : net[x]? = some (c, s)) {j : Nat} {pc : PortCfg} (hj : c.ports[j]? = some pc)
    (d : Dec) : portOf net x c s (some d) j = stOf d := by
  cases d <;> simp [portOf, stOf, hp.notSlaveOnly hx, not_shadowed hp hx hj]

theorem portOf_plain_none (hp : Plain net) (hx : net[x]? = some (c, s)) {j : Nat} {pc : PortCfg} (hj : c.ports[j]? = some pc)
    (h : advsOn net pc.seg x j = []) : portOf net x c s none j = .master := by
  simp [portOf, hears, hp.notSlaveOnly hx, hj, h]

structure PlainGm (net : Net) (x : Nat) (c : NodeCfg) (s : NodeSt) : Prop where
  notFollows : ¬∃ g gj, Follows net x c g gj
  isGm : IsGm c s
  allMaster : ∀ (j : Nat) (pc : PortCfg), c.ports[j]? = some pc → s.ports[j]? = some PSt.master

structure PlainFollower (net : Net) (x : Nat) (c : NodeCfg) (s : NodeSt) (g : Adv) (gj : Nat) : Prop where
  follows : Follows net x c g gj
  takes : Takes s g
  slave : s.ports[gj]? = some PSt.slave
  ports : ∀ (j : Nat) (pc : PortCfg), c.ports[j]? = some pc →
    s.ports[j]? = some (stOf (followDec c g gj (bestOf c.id (j + 1) (advsOn net pc.seg x j)) j))

/-- **A node of a plain fixed point** is one or the other. -/
theorem Plain.cases (hp : Plain net) (hst : Stable net) (hx : net[x]? = some (c, s)) :
    PlainGm net x c s ∨ ∃ g gj, PlainFollower net x c s g gj := by
  have h := hst.at hx (hp.alive hx)
  have port : ∀ (j : Nat) (pc : PortCfg), c.ports[j]? = some pc → s.ports[j]? = some (stOf
      (Net.decide c (ebestOf c (erbestsOf net x c)) (bestOf c.id (j + 1) (advsOn net pc.seg x j)) j)) := by
    intro j pc hj
    have hport := h.spec.port j
    rw [decsOf_getElem?, erbestsOf_plain hp h.node hj, Option.map_some, Option.map_some] at hport
    cases hd : decAt c s (erbestsOf net x c) j (bestOf c.id (j + 1) (advsOn net pc.seg x j)) with
    | none =>
      -- no decision: a Listening port with no `Erbest`; but it hears nothing, so it would turn Master
      obtain ⟨hl, hnone⟩ := decAt_eq_none_iff.mp hd
      rw [hd, portOf_plain_none hp h.node hj (bestOf_eq_none hnone)] at hport
      rw [getD_of_getElem? hport] at hl
      cases hl
    | some d => rw [hport, hd, portOf_plain hp h.node hj, decAt_eq_some hd]
  by_cases hf : ∃ g gj, Follows net x c g gj
  · obtain ⟨g, gj, hf⟩ := hf
    exact .inr ⟨g, gj, hf, h.spec.takes hf, (h.slave_iff gj).mpr ⟨g, hf⟩, fun j pc hj => by rw [port j pc hj, hf.decide]⟩
  · have hall : ∀ (j : Nat) (pc : PortCfg), c.ports[j]? = some pc → s.ports[j]? = some PSt.master := by
      intro j pc hj
      rw [port j pc hj, (decide_of_not_follows hf _ j).resolve_right fun hlow => hp.high h.node hlow.1]
      rfl
    obtain ⟨p0, hp0⟩ := hp.nonempty h.node
    exact .inl ⟨hf, h.gm_of_master hf (hall 0 p0 hp0), hall⟩

/-- its own attributes, or those at the end of its parent chain: the one use of `Stable.chain_to_grandmaster` in the
theory of plain networks -/
theorem gm_is_someones_own (hst : Stable net) (hp : Plain net) (hx : net[x]? = some (c, s)) :
    ∃ (r : Nat) (cr : NodeCfg) (sr : NodeSt), net[r]? = some (cr, sr) ∧ s.gm = cr.ownGm := by
  rcases hp.cases hst hx with hg | ⟨g, gj, hf⟩
  · exact ⟨x, c, s, hx, hg.isGm.gm_eq⟩
  · obtain ⟨r, cr, sr, hr, _, _, hg, _⟩ := hst.chain_to_grandmaster hx (hp.alive hx) ⟨gj, hf.slave⟩
    exact ⟨r, cr, sr, hr, hg⟩

theorem cmpDS_gmKey (a : Adv) (rc rp : Nat) : (a.cmpDS rc rp).gmKey = a.gm.key := rfl

theorem ownCmpDS_gmKey (c : NodeCfg) : (ownCmpDS c).gmKey = c.ownGm.key := rfl

theorem gm_key_inj {a b : Gm} (h : a.key = b.key) : a = b := by
  cases a
  cases b
  obtain ⟨rfl, rfl, rfl, rfl, rfl, rfl⟩ := h
  rfl

theorem gm_of_id (hst : Stable net) (hp : Plain net) {y : Nat} {cy : NodeCfg} {sy : NodeSt} (hy : net[y]? = some (cy, sy))
    (hx : net[x]? = some (c, s)) (h : sy.gm.id = c.id) : sy.gm = c.ownGm := by
  obtain ⟨r, cr, sr, hr, hgr⟩ := gm_is_someones_own hst hp hy
  rw [hgr] at h ⊢
  cases hp.ids r x cr sr c s hr hx h
  cases hr.symm.trans hx
  rfl

theorem gm_consistent (hst : Stable net) (hp : Plain net) {x y : Nat} {cx : NodeCfg} {sx : NodeSt}
    {cy : NodeCfg} {sy : NodeSt} (hx : net[x]? = some (cx, sx)) (hy : net[y]? = some (cy, sy))
    (h : sx.gm.id = sy.gm.id) : sx.gm = sy.gm := by
  obtain ⟨r, cr, sr, hr, hgr⟩ := gm_is_someones_own hst hp hy
  rw [hgr] at h ⊢
  exact gm_of_id hst hp hx hr h

theorem heard_good (hst : Stable net) (hp : Plain net) (hx : net[x]? = some (c, s)) {l : List Adv}
    (hl : ∀ a ∈ l, ∃ j pc, c.ports[j]? = some pc ∧ a ∈ advsOn net pc.seg x j) : GoodAdvs c.id l := by
  have src : ∀ a ∈ l, ∃ (n : Nat) (cn : NodeCfg) (sn : NodeSt), net[n]? = some (cn, sn) ∧ a.gm = sn.gm ∧ a.sender ≠ c.id :=
    fun a ha => (hl a ha).elim fun j ⟨pc, hj, hmem⟩ => hp.heard_src hx hj hmem
  constructor
  · intro a ha
    obtain ⟨_, _, _, _, _, hne⟩ := src a ha
    exact hne
  · intro a ha b hb hid
    obtain ⟨n, cn, sn, hn, hga, _⟩ := src a ha
    obtain ⟨n', cn', sn', hn', hgb, _⟩ := src b hb
    rw [hga, hgb] at hid ⊢
    exact gm_consistent hst hp hn hn' hid

theorem erbest_le_heard (hst : Stable net) (hp : Plain net) (hx : net[x]? = some (c, s)) {j : Nat} {pc : PortCfg}
    (hj : c.ports[j]? = some pc) {a : Adv} (ha : a ∈ advsOn net pc.seg x j) :
    ∃ e, (erbestsOf net x c)[j]? = some (some e) ∧ e ∈ advsOn net pc.seg x j ∧
      keyCmp (e.cmpDS c.id (j + 1)).key (a.cmpDS c.id (j + 1)).key ≠ .gt := by
  cases he : bestOf c.id (j + 1) (advsOn net pc.seg x j) with
  | none => rw [bestOf_eq_none he] at ha; cases ha
  | some e =>
    obtain ⟨hm, hmin⟩ := bestOf_min _ _ _ (heard_good hst hp hx fun a ha => ⟨j, pc, hj, ha⟩) e he
    exact ⟨e, by rw [erbestsOf_plain hp hx hj, he], hm, hmin a ha⟩

theorem ebest_of_erbest (hp : Plain net) (hx : net[x]? = some (c, s)) {j : Nat} {pc : PortCfg}
    (hj : c.ports[j]? = some pc) {e : Adv} (he : (erbestsOf net x c)[j]? = some (some e)) :
    ∃ g gj, ebestOf c (erbestsOf net x c) = some (g, gj) := by
  have hcand := mem_candsOf.mpr ⟨pc, hj, hp.notMasterOnly hx hj, he⟩
  cases heb : ebestOf c (erbestsOf net x c) with
  | none => rw [ebestOf_eq_none heb] at hcand; cases hcand
  | some g => exact ⟨g.1, g.2, rfl⟩

theorem ebest_le_erbest (hst : Stable net) (hp : Plain net) (hx : net[x]? = some (c, s)) {j : Nat} {pc : PortCfg}
    (hj : c.ports[j]? = some pc) {e : Adv} (he : (erbestsOf net x c)[j]? = some (some e)) {g : Adv} {gj : Nat}
    (heb : ebestOf c (erbestsOf net x c) = some (g, gj)) :
    keyCmp (g.cmpDS c.id (gj + 1)).key (e.cmpDS c.id (j + 1)).key ≠ .gt := by
  refine (ebestOf_min c _ (heard_good hst hp hx ?_) g gj heb).2 (e, j)
    (mem_candsOf.mpr ⟨pc, hj, hp.notMasterOnly hx hj, he⟩)
  intro a ha
  obtain ⟨⟨a', i⟩, hmem, rfl⟩ := List.mem_map.mp ha
  obtain ⟨_, _, _, herb⟩ := mem_candsOf.mp hmem
  obtain ⟨pi, hpi, _, hm, _⟩ := erbestsOf_spec herb
  exact ⟨i, pi, hpi, hm⟩

theorem gm_ge_best (hst : Stable net) (hp : Plain net) {b : Nat} {cb : NodeCfg} {sb : NodeSt} (hb : IsBest net b cb sb)
    (hx : net[x]? = some (c, s)) : keyCmp cb.ownGm.key s.gm.key ≠ .gt := by
  obtain ⟨r, cr, sr, hr, hgr⟩ := gm_is_someones_own hst hp hx
  rw [hgr]
  exact hb.le hr

/-- **When an instance yields**: exactly when the advertised grandmaster ranks strictly above the own attributes. An
advertisement that names the receiver itself as grandmaster comes from an instance that follows somebody, so it is at
least one step away and loses. -/
theorem heard_worse_iff (hst : Stable net) (hp : Plain net) (hx : net[x]? = some (c, s)) {j : Nat} {pc : PortCfg}
    (hj : c.ports[j]? = some pc) {a : Adv} (ha : a ∈ advsOn net pc.seg x j) (rp : Nat) :
    ((ownCmpDS c).compare (a.cmpDS c.id rp)).asOrdering = .lt ↔ keyCmp a.gm.key c.ownGm.key = .lt := by
  by_cases hid : c.id = a.gm.id
  · obtain ⟨n, k, cn, sn, _, hm, hne, rfl⟩ := hp.heard hx hj ha
    have hgm : sn.gm = c.ownGm := gm_of_id hst hp hm.node hx hid.symm
    have hpos : 0 < sn.steps := by
      rcases hp.cases hst hm.node with hg | ⟨g, gj, hf⟩
      · exact absurd (congrArg Gm.id (hg.isGm.gm_eq.symm.trans hgm)) hne
      · rw [hf.takes.steps]
        exact Nat.succ_pos _
    refine iff_of_false (compare_ne_lt_of_steps_lt _ _ hid hpos) ?_
    rw [advOf_gm, hgm, keyCmp_refl]
    exact Ordering.noConfusion
  · rw [compare_asOrdering_gmKey _ _ hid, cmpDS_gmKey, ownCmpDS_gmKey]

/-- **The best instance is in the grandmaster state**: what it hears names some instance's own attributes, and
none ranks above the best's. -/
theorem best_is_gm (hst : Stable net) (hp : Plain net) {b : Nat} {cb : NodeCfg} {sb : NodeSt}
    (hb : IsBest net b cb sb) : IsGm cb sb := by
  rcases hp.cases hst hb.node with hg | ⟨g, j, hf⟩
  · exact hg.isGm
  · obtain ⟨pc, hpc, _, hmem, _⟩ := ebest_heard hf.follows.ebest
    have hlt := (heard_worse_iff hst hp hb.node hpc hmem (j + 1)).mp hf.follows.worse
    obtain ⟨n, cn, sn, hn, hgn, _⟩ := hp.heard_src hb.node hpc hmem
    exact absurd (keyCmp_gt_iff.mpr (hgn ▸ hlt)) (gm_ge_best hst hp hb hn)

theorem master_on_segment (hst : Stable net) (hp : Plain net) (hx : net[x]? = some (c, s)) {i : Nat} {pi : PortCfg}
    (hi : c.ports[i]? = some pi) : ∃ n k cn sn pcn, MasterOn net pi.seg n k cn sn pcn ∧ sn.gm = s.gm := by
  by_cases hmst : s.ports[i]? = some PSt.master
  · exact ⟨x, i, c, s, pi, hp.masterOn hx hi hmst, rfl⟩
  rcases hp.cases hst hx with hg | ⟨g, gj, hf⟩
  · exact absurd (hg.allMaster i pi hi) hmst
  -- a Slave or Passive port: its decision against the best `e` it hears is not M3, so `e` names the grandmaster
  -- of `Ebest`, which is the instance's; and `e` comes from a Master port of the segment
  have hd : followDec c g gj (bestOf c.id (i + 1) (advsOn net pi.seg x i)) i ≠ .m3 := by
    intro h
    rw [hf.ports i pi hi, h] at hmst
    exact hmst rfl
  obtain ⟨e, he, hid⟩ := followDec_ne_m3 hd
  obtain ⟨n, k, cn, sn, pcn, hm, _, rfl⟩ := mem_advsOn.mp (bestOf_mem he)
  have hgm : s.gm.id = sn.gm.id := by rw [hf.takes.gm, hid, advOf_gm]
  exact ⟨n, k, cn, sn, pcn, hm, gm_consistent hst hp hm.node hx hgm.symm⟩

/-- **An instance's grandmaster ranks no lower than any it hears advertised**: its `Ebest` ranks no lower, and it either
follows that or prefers its own attributes. -/
theorem gm_le_heard (hst : Stable net) (hp : Plain net) (hx : net[x]? = some (c, s)) {j : Nat} {pc : PortCfg}
    (hj : c.ports[j]? = some pc) {a : Adv} (ha : a ∈ advsOn net pc.seg x j) : keyCmp s.gm.key a.gm.key ≠ .gt := by
  obtain ⟨e, herb, _, h1⟩ := erbest_le_heard hst hp hx hj ha
  have hga : ∀ {g gj}, ebestOf c (erbestsOf net x c) = some (g, gj) → keyCmp g.gm.key a.gm.key ≠ .gt := by
    intro g gj heb
    have h := key_le_gmKey_le _ _ (CmpDS.key_le_trans (ebest_le_erbest hst hp hx hj herb heb) h1)
    rwa [cmpDS_gmKey, cmpDS_gmKey] at h
  rcases hp.cases hst hx with hg | ⟨g, gj, hf⟩
  · -- `Ebest` does not beat the own data set, so the own attributes rank no lower than its grandmaster
    obtain ⟨g, gj, heb⟩ := ebest_of_erbest hp hx hj herb
    obtain ⟨pg, hpg, _, hgmem, _⟩ := ebest_heard heb
    have hnw := mt (heard_worse_iff hst hp hx hpg hgmem (gj + 1)).mpr fun hw =>
      hg.notFollows ⟨g, gj, { high := hp.high hx, ebest := heb, worse := hw }⟩
    rw [hg.isGm.gm_eq]
    exact keyCmp_le_trans _ g.gm.key _ rfl rfl (mt keyCmp_gt_iff.mp hnw) (hga heb)
  · rw [hf.takes.gm]
    exact hga hf.follows.ebest

/-- **The best clock's grandmaster attributes spread over every shared segment**: from `u` to any `v` with a port on a
segment of `u`. -/
theorem best_gm_step (hst : Stable net) (hp : Plain net) {b : Nat} {cb : NodeCfg} {sb : NodeSt} (hb : IsBest net b cb sb)
    {u v : Nat} {cu cv : NodeCfg} {su sv : NodeSt} (hu : net[u]? = some (cu, su)) (hv : net[v]? = some (cv, sv))
    {i j : Nat} {pi pj : PortCfg} (hi : cu.ports[i]? = some pi) (hj : cv.ports[j]? = some pj) (hseg : pi.seg = pj.seg)
    (hgu : su.gm = cb.ownGm) : sv.gm = cb.ownGm := by
  obtain ⟨n, k, cn, sn, pcn, hm, hgn⟩ := master_on_segment hst hp hu hi
  by_cases hnv : n = v
  · subst hnv
    cases hv.symm.trans hm.node
    rw [hgn, hgu]
  · -- v hears that Master port, so its grandmaster ranks no lower than the best's; and none ranks higher
    have h1 := gm_le_heard hst hp hv hj (mem_advsOn.mpr ⟨n, k, cn, sn, pcn, hseg ▸ hm, fun h => hnv h.1, rfl⟩)
    rw [advOf_gm, hgn, hgu] at h1
    exact gm_key_inj (keyCmp_antisymm _ _ rfl h1 (gm_ge_best hst hp hb hv))

theorem best_gm_reach (hst : Stable net) (hp : Plain net) {b : Nat} {cb : NodeCfg} {sb : NodeSt}
    (hb : IsBest net b cb sb) {y : Nat} (hr : Reach net b y) :
    ∀ (cy : NodeCfg) (sy : NodeSt), net[y]? = some (cy, sy) → sy.gm = cb.ownGm := by
  induction hr with
  | refl =>
    intro cy sy hy
    cases hb.node.symm.trans hy
    exact (best_is_gm hst hp hb).gm_eq
  | step _ hl ih =>
    intro cw sw hw
    obtain ⟨cv, sv, cw', sw', i, j, pi, pj, hv, hw', hi, hj, hseg⟩ := hl
    cases hw.symm.trans hw'
    exact best_gm_step hst hp hb hv hw hi hj hseg (ih cv sv hv)

end

end Statime.Net
