import StatimeModel.Lemmas.NetBest
/-
A concrete two-instance network (one shared segment; node 0, clock identity 1, is better by identity than node 1,
clock identity 2) that is a fixed point, plain, connected, with node 0 the best: the hypotheses of
C01.best_is_only_grandmaster are satisfiable.
-/
namespace Statime.Net.Demo
open Statime Statime.Net

def c0 : NodeCfg := { id := 1, p1 := 128, cls := 248, acc := 254, var := 65535, p2 := 128, slaveOnly := false, ports := [{ seg := 0, masterOnly := false }] }
def c1 : NodeCfg := { id := 2, p1 := 128, cls := 248, acc := 254, var := 65535, p2 := 128, slaveOnly := false, ports := [{ seg := 0, masterOnly := false }] }
def s0 : NodeSt := { ports := [.master], parentClock := 1, parentPort := 0, steps := 0, gm := c0.ownGm }
def s1 : NodeSt := { ports := [.slave], parentClock := 1, parentPort := 1, steps := 1, gm := c0.ownGm }
def demo : Net := [(c0, s0), (c1, s1)]

theorem demo_node (x : Nat) (c : NodeCfg) (s : NodeSt) (hx : demo[x]? = some (c, s)) :
    (x = 0 ∧ c = c0 ∧ s = s0) ∨ (x = 1 ∧ c = c1 ∧ s = s1) := by
  match x, hx with
  | 0, hx => cases hx; exact .inl ⟨rfl, rfl, rfl⟩
  | 1, hx => cases hx; exact .inr ⟨rfl, rfl, rfl⟩
  | n + 2, hx => cases hx

theorem demo_stable : Net.Stable demo := by
  intro x c s hx _
  rcases demo_node x c s hx with ⟨rfl, rfl, rfl⟩ | ⟨rfl, rfl, rfl⟩ <;> decide

example : stepNode demo 0 = s0 := demo_stable 0 c0 s0 rfl rfl
example : stepNode demo 1 = s1 := demo_stable 1 c1 s1 rfl rfl

theorem demo_plain : Net.Plain demo := by
  constructor
  · intro x c s hx
    rcases demo_node x c s hx with ⟨_, rfl, rfl⟩ | ⟨_, rfl, rfl⟩ <;> decide
  · intro x y cx sx cy sy hx hy hid
    rcases demo_node x cx sx hx with ⟨rfl, rfl, rfl⟩ | ⟨rfl, rfl, rfl⟩ <;>
      rcases demo_node y cy sy hy with ⟨rfl, rfl, rfl⟩ | ⟨rfl, rfl, rfl⟩
    · rfl
    · exact absurd hid (by decide)
    · exact absurd hid (by decide)
    · rfl
  · intro x c s i j pi pj hx hi hj _
    have one : c.ports.length = 1 := by
      rcases demo_node x c s hx with ⟨_, rfl, _⟩ | ⟨_, rfl, _⟩ <;> rfl
    have hi := (List.getElem?_eq_some_iff.mp hi).1
    have hj := (List.getElem?_eq_some_iff.mp hj).1
    rw [one] at hi hj
    rw [Nat.lt_one_iff.mp hi, Nat.lt_one_iff.mp hj]
  · intro x c s hx
    rcases demo_node x c s hx with ⟨_, _, rfl⟩ | ⟨_, _, rfl⟩ <;> decide

theorem demo_best : Net.IsBest demo 0 c0 s0 := by
  refine ⟨rfl, ?_⟩
  intro y cy sy hy
  rcases demo_node y cy sy hy with ⟨_, rfl, _⟩ | ⟨_, rfl, _⟩ <;> decide

theorem demo_reach (y : Nat) (cy : NodeCfg) (sy : NodeSt) (hy : demo[y]? = some (cy, sy)) : Net.Reach demo 0 y := by
  rcases demo_node y cy sy hy with ⟨rfl, _, _⟩ | ⟨rfl, _, _⟩
  · exact .refl
  · exact .step .refl ⟨c0, s0, c1, s1, 0, 0, _, _, rfl, rfl, rfl, rfl, rfl⟩

end Statime.Net.Demo
