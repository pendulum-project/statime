import StatimeModel.Model.Net
import StatimeModel.Lemmas.Order
/-
The abstract network model (Model/Net.lean) at a fixed point of `stepNode`. The node-level notion is `Follows`: the
re-evaluation of the instance ends in "take the data sets of advertisement `g`, heard on port `gj`" (`Takes`).
-/
namespace Statime.Net
open Statime

def StableAt (net : Net) (x : Nat) (c : NodeCfg) (s : NodeSt) : Prop :=
  net[x]? = some (c, s) ∧ c.alive = true ∧ stepNode net x = s

def IsGm (c : NodeCfg) (s : NodeSt) : Prop := s.steps = 0 ∧ s.gm = c.ownGm ∧ s.parentClock = c.id

def Stable (net : Net) : Prop := ∀ x c s, net[x]? = some (c, s) → c.alive = true → stepNode net x = s

section
variable {net : Net} {x : Nat} {c : NodeCfg} {s : NodeSt}

theorem StableAt.node (h : StableAt net x c s) : net[x]? = some (c, s) := h.1

theorem StableAt.alive (h : StableAt net x c s) : c.alive = true := h.2.1

theorem StableAt.fixed (h : StableAt net x c s) : stepNode net x = s := h.2.2

theorem Stable.at (hst : Stable net) (hx : net[x]? = some (c, s)) (ha : c.alive = true) : StableAt net x c s :=
  ⟨hx, ha, hst x c s hx ha⟩

theorem IsGm.steps_eq (h : IsGm c s) : s.steps = 0 := h.1

theorem IsGm.gm_eq (h : IsGm c s) : s.gm = c.ownGm := h.2.1

end

/-- what port `k` of an instance advertises while Master: the record `advsOn` builds, copied (`mem_advsOn` ties it
back) -/
def advOf (c : NodeCfg) (s : NodeSt) (k : Nat) : Adv :=
  { gm := s.gm, steps := s.steps, sender := c.id, senderPort := k + 1 }

theorem advOf_gm (c : NodeCfg) (s : NodeSt) (k : Nat) : (advOf c s k).gm = s.gm := rfl

theorem advOf_steps (c : NodeCfg) (s : NodeSt) (k : Nat) : (advOf c s k).steps = s.steps := rfl

theorem advOf_sender (c : NodeCfg) (s : NodeSt) (k : Nat) : (advOf c s k).sender = c.id := rfl

structure MasterOn (net : Net) (seg n k : Nat) (c : NodeCfg) (s : NodeSt) (pc : PortCfg) : Prop where
  node : net[n]? = some (c, s)
  alive : c.alive = true
  port : c.ports[k]? = some pc
  seg : pc.seg = seg
  attached : pc.attached = true
  master : s.ports.getD k .listening = .master

/-- `high`: with clockClass outside 1..127 it is `Ebest` that decides, not each port's `Erbest` -/
structure Follows (net : Net) (x : Nat) (c : NodeCfg) (g : Adv) (gj : Nat) : Prop where
  high : ¬(1 ≤ c.cls ∧ c.cls ≤ 127)
  ebest : ebestOf c (erbestsOf net x c) = some (g, gj)
  worse : ((ownCmpDS c).compare (g.cmpDS c.id (gj + 1))).asOrdering = .lt

/-- the data sets after decision S1 on advertisement `a` -/
structure Takes (s : NodeSt) (a : Adv) : Prop where
  parentClock : s.parentClock = a.sender
  parentPort : s.parentPort = a.senderPort
  steps : s.steps = a.steps + 1
  gm : s.gm = a.gm

/-- port `k` of node `n` is the parent of the Slave port `j` of node `x` -/
structure ParentOf (net : Net) (x j : Nat) (c : NodeCfg) (s : NodeSt) (pc : PortCfg) (n k : Nat) (cn : NodeCfg)
    (sn : NodeSt) (pcn : PortCfg) : Prop where
  node : net[x]? = some (c, s)
  port : c.ports[j]? = some pc
  attached : pc.attached = true
  slave : s.ports[j]? = some PSt.slave
  master : MasterOn net pc.seg n k cn sn pcn
  other : cn.id ≠ c.id
  takes : Takes s (advOf cn sn k)

inductive Chain (net : Net) : Nat → Nat → Nat → Prop
  | here (x : Nat) : Chain net x x 0
  | hop {x j n k r d : Nat} {c cn : NodeCfg} {s sn : NodeSt} {pc pcn : PortCfg} :
      ParentOf net x j c s pc n k cn sn pcn → Chain net n r d → Chain net x r (d + 1)

/-- the innermost `match` of `Net.decide`, copied (the `rfl` of `Follows.decide` ties it back) -/
def followDec (c : NodeCfg) (g : Adv) (gj : Nat) (e : Option Adv) (j : Nat) : Dec :=
  match e with
  | none => .m3
  | some e' =>
    if gj = j ∧ g = e' then .s g
    else if (g.cmpDS c.id (gj + 1)).compare (e'.cmpDS c.id (j + 1)) = .betterTopo then .p else .m3

/-- the function `decsOf` maps over the `Erbest`s, copied (`decsOf_getElem?` ties it back) -/
def decAt (c : NodeCfg) (s : NodeSt) (E : List (Option Adv)) (j : Nat) (e : Option Adv) : Option Dec :=
  if s.ports.getD j .listening = .listening ∧ e.isNone then none else some (Net.decide c (ebestOf c E) e j)

section
variable {net : Net} {x : Nat} {c : NodeCfg} {s : NodeSt}

section
variable {j n k : Nat} {pc pcn : PortCfg} {cn : NodeCfg} {sn : NodeSt}

theorem ParentOf.parentClock (h : ParentOf net x j c s pc n k cn sn pcn) : s.parentClock = cn.id := h.takes.parentClock

theorem ParentOf.parentPort (h : ParentOf net x j c s pc n k cn sn pcn) : s.parentPort = k + 1 := h.takes.parentPort

theorem ParentOf.steps (h : ParentOf net x j c s pc n k cn sn pcn) : s.steps = sn.steps + 1 := h.takes.steps

theorem ParentOf.gm (h : ParentOf net x j c s pc n k cn sn pcn) : s.gm = sn.gm := h.takes.gm

end

theorem getElem?_zipIdx_map {α β : Type} (l : List α) (f : α × Nat → β) (j : Nat) :
    (l.zipIdx.map f)[j]? = l[j]?.map fun a => f (a, j) := by
  rw [List.getElem?_map, List.getElem?_zipIdx]
  cases l[j]? <;> simp

/- The model reads the state of a port as `s.ports.getD k .listening` (`advsOn`, `decsOf`), the fixed-point equation
`StableAt.Spec.port` gives `s.ports[k]? = some _`; the next two lemmas pass between the two. -/
theorem getD_of_getElem? {α : Type} {l : List α} {k : Nat} {a d : α} (h : l[k]? = some a) : l.getD k d = a := by
  simp [List.getD, h]

theorem getElem?_of_getD {α : Type} {l : List α} {k : Nat} {a d : α} (h : l.getD k d = a) (hne : a ≠ d) :
    l[k]? = some a := by
  cases hg : l[k]? with
  | none => exact absurd (by simpa [List.getD, hg] using h.symm) hne
  | some v => simpa [List.getD, hg] using h

theorem bestOf_eq (rc rp : Nat) (l : List Adv) :
    bestOf rc rp l = maxByG (fun a b => ((a.cmpDS rc rp).compare (b.cmpDS rc rp)).asOrdering) l := by cases l <;> rfl

theorem ebestOf_eq (c : NodeCfg) (E : List (Option Adv)) :
    ebestOf c E = maxByG (fun a b : Adv × Nat =>
      ((a.1.cmpDS c.id (a.2 + 1)).compare (b.1.cmpDS c.id (b.2 + 1))).asOrdering) (candsOf c E) := by
  unfold ebestOf; cases candsOf c E <;> rfl

theorem bestOf_mem {rc rp : Nat} {l : List Adv} {a : Adv} (h : bestOf rc rp l = some a) : a ∈ l :=
  maxByG_mem ((bestOf_eq rc rp l).symm.trans h)

theorem bestOf_eq_none {rc rp : Nat} {l : List Adv} (h : bestOf rc rp l = none) : l = [] :=
  maxByG_eq_none ((bestOf_eq rc rp l).symm.trans h)

theorem ebestOf_eq_none {E : List (Option Adv)} (h : ebestOf c E = none) : candsOf c E = [] :=
  maxByG_eq_none ((ebestOf_eq c E).symm.trans h)

theorem ebestOf_mem {E : List (Option Adv)} {g : Adv × Nat} (h : ebestOf c E = some g) : g ∈ candsOf c E :=
  maxByG_mem ((ebestOf_eq c E).symm.trans h)

theorem mem_advsOn {seg j : Nat} {a : Adv} :
    a ∈ advsOn net seg x j ↔ ∃ n k cn sn pcn, MasterOn net seg n k cn sn pcn ∧ ¬(n = x ∧ k = j) ∧ a = advOf cn sn k := by
  simp only [advsOn, List.mem_flatMap, List.mem_filterMap, List.mem_zipIdx_iff_getElem?, List.mem_ite_nil_left,
    Option.ite_none_right_eq_some, Option.some.injEq, Bool.not_eq_true', Bool.not_eq_false, decide_eq_false_iff_not]
  constructor
  · rintro ⟨⟨⟨cn, sn⟩, n⟩, hn, hal, ⟨pcn, k⟩, hk, ⟨hseg, hat, hne, hm⟩, rfl⟩
    exact ⟨n, k, cn, sn, pcn, ⟨hn, hal, hk, hseg, hat, hm⟩, hne, rfl⟩
  · rintro ⟨n, k, cn, sn, pcn, hm, hne, rfl⟩
    exact ⟨((cn, sn), n), hm.node, hm.alive, (pcn, k), hm.port, ⟨hm.seg, hm.attached, hne, hm.master⟩, rfl⟩

theorem mem_candsOf {E : List (Option Adv)} {a : Adv} {j : Nat} :
    (a, j) ∈ candsOf c E ↔ ∃ pc, c.ports[j]? = some pc ∧ pc.masterOnly = false ∧ E[j]? = some (some a) := by
  simp only [candsOf, List.mem_filterMap, List.mem_zipIdx_iff_getElem?, List.getElem?_zip_eq_some,
    Option.ite_none_left_eq_some, Option.map_eq_some_iff, Prod.mk.injEq, Bool.not_eq_true]
  constructor
  · rintro ⟨⟨⟨pc, e⟩, k⟩, ⟨hk, he⟩, hmo, a', rfl, rfl, rfl⟩
    exact ⟨pc, hk, hmo, he⟩
  · rintro ⟨pc, hk, hmo, he⟩
    exact ⟨((pc, some a), j), ⟨hk, he⟩, hmo, a, rfl, rfl, rfl⟩

theorem erbestsOf_getElem? (net : Net) (x : Nat) (c : NodeCfg) (j : Nat) :
    (erbestsOf net x c)[j]? = c.ports[j]?.map fun pc =>
      if !pc.attached then none else bestOf c.id (j + 1) ((advsOn net pc.seg x j).filter (qualified c)) :=
  getElem?_zipIdx_map c.ports _ j

theorem qualified_iff (c : NodeCfg) (a : Adv) : qualified c a = true ↔ a.sender ≠ c.id ∧ a.steps < STEPS_CUTOFF := by
  simp [qualified]

theorem erbestsOf_spec {j : Nat} {a : Adv} (h : (erbestsOf net x c)[j]? = some (some a)) :
    ∃ pc, c.ports[j]? = some pc ∧ pc.attached = true ∧ a ∈ advsOn net pc.seg x j ∧ qualified c a = true := by
  rw [erbestsOf_getElem?] at h
  obtain ⟨pc, hp, h⟩ := Option.map_eq_some_iff.mp h
  split at h
  · cases h
  · rename_i hat
    have hm := List.mem_filter.mp (bestOf_mem h)
    exact ⟨pc, hp, by simpa using hat, hm.1, hm.2⟩

theorem decAt_some (c : NodeCfg) (s : NodeSt) (E : List (Option Adv)) (j : Nat) (e : Adv) :
    decAt c s E j (some e) = some (Net.decide c (ebestOf c E) (some e) j) :=
  if_neg fun h => nomatch h.2

theorem decAt_eq_some {E : List (Option Adv)} {j : Nat} {e : Option Adv} {d : Dec} (h : decAt c s E j e = some d) :
    Net.decide c (ebestOf c E) e j = d :=
  Option.some.inj (Option.ite_none_left_eq_some.mp h).2

theorem decAt_eq_none_iff {E : List (Option Adv)} {j : Nat} {e : Option Adv} :
    decAt c s E j e = none ↔ s.ports.getD j .listening = .listening ∧ e = none := by
  simp only [decAt, Option.isNone_iff_eq_none, ite_eq_left_iff, reduceCtorEq, imp_false, Decidable.not_not]

theorem decsOf_getElem? (c : NodeCfg) (s : NodeSt) (E : List (Option Adv)) (j : Nat) :
    (decsOf c s E)[j]? = E[j]?.map (decAt c s E j) :=
  getElem?_zipIdx_map E _ j

theorem decsOf_some {E : List (Option Adv)} {j : Nat} {d : Dec} (h : (decsOf c s E)[j]? = some (some d)) :
    ∃ e, E[j]? = some e ∧ Net.decide c (ebestOf c E) e j = d := by
  rw [decsOf_getElem?] at h
  obtain ⟨e, he, h⟩ := Option.map_eq_some_iff.mp h
  exact ⟨e, he, decAt_eq_some h⟩

theorem decsOf_none {E : List (Option Adv)} {j : Nat} (h : (decsOf c s E)[j]? = some none) :
    s.ports.getD j .listening = .listening := by
  rw [decsOf_getElem?] at h
  obtain ⟨e, _, h⟩ := Option.map_eq_some_iff.mp h
  exact (decAt_eq_none_iff.mp h).1

theorem slaveDec_some {decs : List (Option Dec)} {a : Adv} (h : slaveDec decs = some a) :
    ∃ j : Nat, decs[j]? = some (some (Dec.s a)) := by
  obtain ⟨d, hd, hs⟩ := List.exists_of_findSome?_eq_some h
  obtain ⟨j, hj⟩ := List.mem_iff_getElem?.mp hd
  split at hs
  · cases hs
    exact ⟨j, hj⟩
  · cases hs

theorem slaveDec_of_mem {decs : List (Option Dec)} {j : Nat} {a : Adv} (h : decs[j]? = some (some (Dec.s a))) :
    ∃ b, slaveDec decs = some b :=
  Option.isSome_iff_exists.mp (List.findSome?_isSome_iff.mpr ⟨_, List.mem_of_getElem? h, rfl⟩)

theorem portOf_slave {d : Option Dec} {j : Nat} (h : portOf net x c s d j = .slave) : ∃ a, d = some (.s a) := by
  -- the arms of `portOf` in turn: all but S1 end in Listening, Passive or Master
  unfold portOf at h
  split at h
  · split at h <;> cases h -- no decision
  · exact ⟨_, rfl⟩ -- S1
  · cases h -- P1 / P2
  · split at h -- M1 / M2
    · cases h
    · split at h <;> cases h
  · split at h -- M3
    · cases h
    · split at h <;> cases h

theorem portOf_master {d : Option Dec} {j : Nat} (h : portOf net x c s d j = .master) :
    d = none ∨ d = some .gm ∨ d = some .m3 := by
  unfold portOf at h
  split at h
  · left; rfl
  · cases h
  · cases h
  · right; left; rfl
  · right; right; rfl

/-! ### `Net.decide`: either the instance follows its `Ebest`, or every decision is M1/M2 (or P1 for a low class) -/

theorem followDec_slave {g : Adv} {gj : Nat} {e : Option Adv} {j : Nat} {a : Adv}
    (h : followDec c g gj e j = .s a) : e = some a ∧ gj = j ∧ g = a := by
  unfold followDec at h
  split at h
  · cases h
  · split at h
    · rename_i hc; cases h; exact ⟨by rw [hc.2], hc.1, rfl⟩
    · split at h <;> cases h

theorem followDec_ne_gm (c : NodeCfg) (g : Adv) (gj : Nat) (e : Option Adv) (j : Nat) : followDec c g gj e j ≠ .gm := by
  unfold followDec
  split
  · exact Dec.noConfusion
  · split
    · exact Dec.noConfusion
    · split <;> exact Dec.noConfusion

theorem followDec_m3 {g : Adv} {gj : Nat} {e : Adv} {j : Nat} (h : followDec c g gj (some e) j = .m3) :
    ¬(gj = j ∧ g = e) ∧ (g.cmpDS c.id (gj + 1)).compare (e.cmpDS c.id (j + 1)) ≠ .betterTopo := by
  unfold followDec at h
  simp only at h
  split at h
  · cases h
  · rename_i h1
    split at h
    · cases h
    · rename_i h2; exact ⟨h1, h2⟩

theorem followDec_ne_m3 {g : Adv} {gj : Nat} {e : Option Adv} {j : Nat} (h : followDec c g gj e j ≠ .m3) :
    ∃ e', e = some e' ∧ g.gm.id = e'.gm.id := by
  unfold followDec at h
  split at h
  · exact absurd rfl h
  · refine ⟨_, rfl, ?_⟩
    split at h
    · rename_i hc; rw [hc.2]
    · split at h
      · exact betterTopo_same_gm _ _ ‹_›
      · exact absurd rfl h

theorem Follows.decide {g : Adv} {gj : Nat} (hf : Follows net x c g gj) (e : Option Adv) (j : Nat) :
    Net.decide c (ebestOf c (erbestsOf net x c)) e j = followDec c g gj e j := by
  unfold Net.decide
  simp only [hf.high, if_false, hf.ebest, hf.worse]
  rfl

theorem decide_of_not_follows (hn : ¬∃ g gj, Follows net x c g gj) (e : Option Adv) (j : Nat) :
    Net.decide c (ebestOf c (erbestsOf net x c)) e j = .gm ∨
      ((1 ≤ c.cls ∧ c.cls ≤ 127) ∧ Net.decide c (ebestOf c (erbestsOf net x c)) e j = .p) := by
  unfold Net.decide
  by_cases hc : 1 ≤ c.cls ∧ c.cls ≤ 127
  · rw [if_pos hc]
    cases e with
    | none => exact .inl rfl
    | some e' =>
      dsimp only
      cases ((ownCmpDS c).compare (e'.cmpDS c.id (j + 1))).asOrdering with
      | lt => exact .inr ⟨hc, rfl⟩
      | eq => exact .inl rfl
      | gt => exact .inl rfl
  · rw [if_neg hc]
    refine .inl ?_
    cases heb : ebestOf c (erbestsOf net x c) with
    | none => rfl
    | some v =>
      obtain ⟨g, gj⟩ := v
      dsimp only
      cases hk : ((ownCmpDS c).compare (g.cmpDS c.id (gj + 1))).asOrdering with
      | lt => exact absurd ⟨g, gj, { high := hc, ebest := heb, worse := hk }⟩ hn
      | eq => rfl
      | gt => rfl

theorem follows_of_ne_gm {e : Option Adv} {j : Nat} {d : Dec}
    (h : Net.decide c (ebestOf c (erbestsOf net x c)) e j = d) (hg : d ≠ .gm) (hp : d ≠ .p) :
    ∃ g gj, Follows net x c g gj :=
  Classical.byContradiction fun hn => by
    rcases decide_of_not_follows hn e j with h' | ⟨_, h'⟩
    · exact hg (h.symm.trans h')
    · exact hp (h.symm.trans h')

theorem decide_slave_iff {e : Option Adv} {j : Nat} {a : Adv} :
    Net.decide c (ebestOf c (erbestsOf net x c)) e j = .s a ↔ Follows net x c a j ∧ e = some a := by
  constructor
  · intro h
    obtain ⟨g, gj, hf⟩ := follows_of_ne_gm h Dec.noConfusion Dec.noConfusion
    rw [hf.decide] at h
    obtain ⟨rfl, rfl, rfl⟩ := followDec_slave h
    exact ⟨hf, rfl⟩
  · rintro ⟨hf, rfl⟩
    rw [hf.decide]
    simp [followDec]

theorem ebest_erbest {g : Adv} {gj : Nat} (h : ebestOf c (erbestsOf net x c) = some (g, gj)) :
    (erbestsOf net x c)[gj]? = some (some g) :=
  (mem_candsOf.mp (ebestOf_mem h)).elim fun _ h => h.2.2

theorem ebest_heard {g : Adv} {gj : Nat} (h : ebestOf c (erbestsOf net x c) = some (g, gj)) :
    ∃ pc, c.ports[gj]? = some pc ∧ pc.attached = true ∧ g ∈ advsOn net pc.seg x gj ∧ qualified c g = true :=
  erbestsOf_spec (ebest_erbest h)

theorem decsOf_slave_iff {j : Nat} {a : Adv} :
    (decsOf c s (erbestsOf net x c))[j]? = some (some (.s a)) ↔ Follows net x c a j := by
  constructor
  · intro h
    obtain ⟨e, _, he⟩ := decsOf_some h
    exact (decide_slave_iff.mp he).1
  · intro hf
    rw [decsOf_getElem?, ebest_erbest hf.ebest, Option.map_some, decAt_some, decide_slave_iff.mpr ⟨hf, rfl⟩]

/-- there is one `Ebest`, so one Slave port -/
theorem Follows.unique {g g' : Adv} {gj gj' : Nat} (hf : Follows net x c g gj) (hf' : Follows net x c g' gj') :
    g = g' ∧ gj = gj' :=
  Prod.mk.inj (Option.some.inj (hf.ebest.symm.trans hf'.ebest))

theorem slaveDec_iff {a : Adv} : slaveDec (decsOf c s (erbestsOf net x c)) = some a ↔ ∃ j, Follows net x c a j := by
  constructor
  · intro h
    obtain ⟨j, hj⟩ := slaveDec_some h
    exact ⟨j, decsOf_slave_iff.mp hj⟩
  · rintro ⟨j, hf⟩
    -- some port decides S1, and whichever does names `Ebest`
    obtain ⟨b, hb⟩ := slaveDec_of_mem (decsOf_slave_iff.mpr hf)
    obtain ⟨j', hj'⟩ := slaveDec_some hb
    obtain ⟨rfl, _⟩ := hf.unique (decsOf_slave_iff.mp hj')
    exact hb

theorem stepNode_eq (hx : net[x]? = some (c, s)) (ha : c.alive = true) :
    stepNode net x =
      (match slaveDec (decsOf c s (erbestsOf net x c)) with
       | some a => { ports := (decsOf c s (erbestsOf net x c)).zipIdx.map fun (d, j) => portOf net x c s d j,
                     parentClock := a.sender, parentPort := a.senderPort, steps := a.steps + 1, gm := a.gm }
       | none =>
         if (decsOf c s (erbestsOf net x c)).any (· = some .gm) then
           { ports := (decsOf c s (erbestsOf net x c)).zipIdx.map fun (d, j) => portOf net x c s d j,
             parentClock := c.id, parentPort := 0, steps := 0, gm := c.ownGm }
         else { s with ports := (decsOf c s (erbestsOf net x c)).zipIdx.map fun (d, j) => portOf net x c s d j }) := by
  unfold stepNode
  rw [hx]
  simp only [ha, Bool.not_true, Bool.false_eq_true, if_false]
  rfl

/-- What a fixed point says about one node; later proofs use these fields instead of unfolding `stepNode` or
`slaveDec`. -/
structure StableAt.Spec (net : Net) (x : Nat) (c : NodeCfg) (s : NodeSt) : Prop where
  port : ∀ j, s.ports[j]? = (decsOf c s (erbestsOf net x c))[j]?.map fun d => portOf net x c s d j
  takes : ∀ {g gj}, Follows net x c g gj → Takes s g
  own : (¬∃ g gj, Follows net x c g gj) → some Dec.gm ∈ decsOf c s (erbestsOf net x c) → IsGm c s

theorem StableAt.spec (h : StableAt net x c s) : StableAt.Spec net x c s := by
  have he := stepNode_eq h.node h.alive
  have hport : (stepNode net x).ports = (decsOf c s (erbestsOf net x c)).zipIdx.map fun (d, j) => portOf net x c s d j := by
    rw [he]
    split
    · rfl
    · split <;> rfl
  rw [h.fixed] at he hport
  refine ⟨fun j => by rw [hport, getElem?_zipIdx_map], fun {g gj} hf => ?_, fun hn hg => ?_⟩
  · rw [slaveDec_iff.mpr ⟨gj, hf⟩] at he
    rw [he]
    exact ⟨rfl, rfl, rfl, rfl⟩
  · have hnone : slaveDec (decsOf c s (erbestsOf net x c)) = none := by
      cases hsd : slaveDec (decsOf c s (erbestsOf net x c)) with
      | none => rfl
      | some a => exact absurd ((slaveDec_iff.mp hsd).elim fun j hf => ⟨a, j, hf⟩) hn
    have hany : (decsOf c s (erbestsOf net x c)).any (· = some .gm) = true :=
      List.any_eq_true.mpr ⟨_, hg, decide_eq_true rfl⟩
    rw [hnone, if_pos hany] at he
    rw [he]
    exact ⟨rfl, rfl, rfl⟩

theorem StableAt.slave_iff (h : StableAt net x c s) (j : Nat) :
    s.ports[j]? = some PSt.slave ↔ ∃ g, Follows net x c g j := by
  rw [h.spec.port j]
  constructor
  · intro hj
    obtain ⟨d, hd, hj⟩ := Option.map_eq_some_iff.mp hj
    obtain ⟨a, rfl⟩ := portOf_slave hj
    exact ⟨a, decsOf_slave_iff.mp hd⟩
  · rintro ⟨g, hf⟩
    rw [decsOf_slave_iff.mpr hf]
    rfl

theorem StableAt.gm_of_master (h : StableAt net x c s) (hn : ¬∃ g gj, Follows net x c g gj) {k : Nat}
    (hk : s.ports[k]? = some PSt.master) : IsGm c s := by
  obtain ⟨d, hd, hp⟩ := Option.map_eq_some_iff.mp ((h.spec.port k).symm.trans hk)
  refine h.spec.own hn (List.mem_of_getElem? (i := k) ?_)
  -- the port has a decision, since it is not Listening: M1/M2, since M3 is a decision of an instance that follows
  rcases portOf_master hp with rfl | rfl | rfl
  · have hl := decsOf_none hd
    rw [getD_of_getElem? hk] at hl
    cases hl
  · exact hd
  · obtain ⟨e, _, he⟩ := decsOf_some hd
    exact absurd (follows_of_ne_gm he Dec.noConfusion Dec.noConfusion) hn

/-- **Every Slave port has a parent** (`ParentOf`), on the segment of that very port. -/
theorem StableAt.slave_parent (h : StableAt net x c s) {j : Nat} (hj : s.ports[j]? = some PSt.slave) :
    ∃ pc n k cn sn pcn, ParentOf net x j c s pc n k cn sn pcn := by
  obtain ⟨g, hf⟩ := (h.slave_iff j).mp hj
  obtain ⟨pc, hpc, hat, hmem, hq⟩ := ebest_heard hf.ebest
  obtain ⟨n, k, cn, sn, pcn, hm, _, rfl⟩ := mem_advsOn.mp hmem
  exact ⟨pc, n, k, cn, sn, pcn,
    { node := h.node, port := hpc, attached := hat, slave := hj, master := hm,
      other := advOf_sender cn sn k ▸ ((qualified_iff c _).mp hq).1, takes := h.spec.takes hf }⟩

theorem StableAt.steps_pos (h : StableAt net x c s) {j : Nat} (hj : s.ports[j]? = some PSt.slave) : 0 < s.steps := by
  obtain ⟨pc, n, k, cn, sn, pcn, hp⟩ := h.slave_parent hj
  exact hp.steps ▸ Nat.succ_pos sn.steps

end

/-- the statement of `C01.slave_follows_master_port`; `StableAt.slave_parent` says more (`j' = j`) -/
theorem slave_follows_master_port (net : Net) (x : Nat) (c : NodeCfg) (s : NodeSt) (h : StableAt net x c s)
    (j : Nat) (hj : s.ports[j]? = some PSt.slave) :
    ∃ (n : Nat) (cn : NodeCfg) (sn : NodeSt) (k : Nat) (pc : PortCfg) (j' : Nat) (pc' : PortCfg),
      net[n]? = some (cn, sn) ∧ cn.alive = true ∧ cn.ports[k]? = some pc ∧ pc.attached = true ∧
      sn.ports.getD k PSt.listening = PSt.master ∧ c.ports[j']? = some pc' ∧ pc'.attached = true ∧ pc.seg = pc'.seg ∧
      s.parentClock = cn.id ∧ s.parentPort = k + 1 ∧ s.steps = sn.steps + 1 ∧ s.gm = sn.gm ∧ cn.id ≠ c.id := by
  obtain ⟨pc, n, k, cn, sn, pcn, hp⟩ := h.slave_parent hj
  exact ⟨n, cn, sn, k, pcn, j, pc, hp.master.node, hp.master.alive, hp.master.port, hp.master.attached,
    hp.master.master, hp.port, hp.attached, hp.master.seg, hp.parentClock, hp.parentPort, hp.steps, hp.gm, hp.other⟩

/-- the statement of `C01.master_port_node` -/
theorem master_port_node (net : Net) (x : Nat) (c : NodeCfg) (s : NodeSt) (h : StableAt net x c s)
    (k : Nat) (hk : s.ports.getD k .listening = .master) :
    IsGm c s ∨ ∃ j : Nat, s.ports[j]? = some PSt.slave := by
  by_cases hf : ∃ g gj, Follows net x c g gj
  · obtain ⟨g, gj, hf⟩ := hf
    exact .inr ⟨gj, (h.slave_iff gj).mpr ⟨g, hf⟩⟩
  · exact .inl (h.gm_of_master hf (getElem?_of_getD hk PSt.noConfusion))

/-- **The parent chain of a slave ends, after exactly stepsRemoved hops, at a live grandmaster**, whose own attributes
are the grandmaster attributes carried along the chain. By induction on stepsRemoved: the parent has a Master port,
so (`master_port_node`) it is in the grandmaster state, or has a Slave port itself and is one step closer. -/
theorem Stable.chain_to_grandmaster {net : Net} (hst : Stable net) {x : Nat} {c : NodeCfg} {s : NodeSt}
    (hx : net[x]? = some (c, s)) (ha : c.alive = true) (hj : ∃ j : Nat, s.ports[j]? = some PSt.slave) :
    ∃ (r : Nat) (cr : NodeCfg) (sr : NodeSt), net[r]? = some (cr, sr) ∧ cr.alive = true ∧ IsGm cr sr ∧
      s.gm = cr.ownGm ∧ Chain net x r s.steps := by
  generalize hd : s.steps = d
  induction d generalizing x c s with
  | zero => exact hj.elim fun _ hj => absurd hd (Nat.ne_of_gt ((hst.at hx ha).steps_pos hj))
  | succ d ih =>
    obtain ⟨j, hj⟩ := hj
    obtain ⟨pc, n, k, cn, sn, pcn, hp⟩ := (hst.at hx ha).slave_parent hj
    have hdn : sn.steps = d := Nat.succ.inj (hp.steps.symm.trans hd)
    rcases master_port_node net n cn sn (hst.at hp.master.node hp.master.alive) k hp.master.master with hg | hsl
    · obtain rfl : d = 0 := hdn.symm.trans hg.steps_eq
      exact ⟨n, cn, sn, hp.master.node, hp.master.alive, hg, hp.gm.trans hg.gm_eq, .hop hp (.here n)⟩
    · obtain ⟨r, cr, sr, hr, har, hgr, hgm, hch⟩ := ih hp.master.node hp.master.alive hsl hdn
      exact ⟨r, cr, sr, hr, har, hgr, hp.gm.trans hgm, .hop hp hch⟩

/-- the statement of `C01.slave_reaches_live_grandmaster` -/
theorem slave_reaches_live_grandmaster (net : Net) (hst : Stable net) :
    ∀ (d x : Nat) (c : NodeCfg) (s : NodeSt), net[x]? = some (c, s) → c.alive = true →
      (∃ j : Nat, s.ports[j]? = some PSt.slave) → s.steps = d →
      ∃ (r : Nat) (cr : NodeCfg) (sr : NodeSt), net[r]? = some (cr, sr) ∧ cr.alive = true ∧ IsGm cr sr ∧ s.gm = cr.ownGm ∧ 0 < d := by
  intro d x c s hx ha hj hd
  obtain ⟨r, cr, sr, hr, har, hg, hgm, _⟩ := hst.chain_to_grandmaster hx ha hj
  exact ⟨r, cr, sr, hr, har, hg, hgm, hd ▸ hj.elim fun _ hj => (hst.at hx ha).steps_pos hj⟩

end Statime.Net
