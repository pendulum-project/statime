import StatimeModel.Lemmas.NetBest
/-
The converged state of a connected plain network (`Conv`: a fixed point in which every instance carries the best
clock's grandmaster attributes) and what it implies. Two Master ports of one segment would each be strictly below the
other in (stepsRemoved, clock identity).
-/
namespace Statime.Net
open Statime

/-- pairs in lexicographic order, written out -/
theorem lex_lt_of_lt_of_le {a a' b b' c c' : Nat} (h1 : a < b ∨ (a = b ∧ a' < b'))
    (h2 : b < c ∨ (b = c ∧ b' ≤ c')) : a < c ∨ (a = c ∧ a' < c') := by
  rcases h1 with h1 | ⟨rfl, h1⟩
  · exact .inl (h2.elim (Nat.lt_trans h1) fun h => h.1 ▸ h1)
  · exact h2.imp_right fun h => ⟨h.1, Nat.lt_of_lt_of_le h1 h.2⟩

theorem lex_lt_asymm {a a' b b' : Nat} (h1 : a < b ∨ (a = b ∧ a' < b')) (h2 : b < a ∨ (b = a ∧ b' < a')) :
    False := by
  rcases lex_lt_of_lt_of_le h1 (h2.imp_right (And.imp_right Nat.le_of_lt)) with h | ⟨_, h⟩
  · exact Nat.lt_irrefl _ h
  · exact Nat.lt_irrefl _ h

structure Conv (net : Net) (b : Nat) (cb : NodeCfg) (sb : NodeSt) : Prop where
  stable : Stable net
  plain : Plain net
  best : IsBest net b cb sb
  allgm : ∀ (y : Nat) (cy : NodeCfg) (sy : NodeSt), net[y]? = some (cy, sy) → sy.gm = cb.ownGm

section
variable {net : Net} {b : Nat} {cb : NodeCfg} {sb : NodeSt} {x : Nat} {c : NodeCfg} {s : NodeSt}

theorem conv_of_reach (hst : Stable net) (hp : Plain net) (hb : IsBest net b cb sb)
    (hconn : ∀ (y : Nat) (cy : NodeCfg) (sy : NodeSt), net[y]? = some (cy, sy) → Reach net b y) : Conv net b cb sb :=
  ⟨hst, hp, hb, fun y cy sy hy => best_gm_reach hst hp hb (hconn y cy sy hy) cy sy hy⟩

theorem Conv.gm_unique (hc : Conv net b cb sb) (hx : net[x]? = some (c, s)) (hg : IsGm c s) : x = b :=
  hc.plain.ids x b c s cb sb hx hc.best.node (congrArg Gm.id (hg.gm_eq.symm.trans (hc.allgm x c s hx)))

theorem Conv.follows_of_ne (hc : Conv net b cb sb) (hx : net[x]? = some (c, s)) (hne : x ≠ b) :
    ∃ g gj, PlainFollower net x c s g gj :=
  (hc.plain.cases hc.stable hx).resolve_left fun hg => hne (hc.gm_unique hx hg.isGm)

theorem Conv.slave_of_ne (hc : Conv net b cb sb) (hx : net[x]? = some (c, s)) (hne : x ≠ b) :
    ∃ j : Nat, s.ports[j]? = some PSt.slave := by
  obtain ⟨_, gj, hf⟩ := hc.follows_of_ne hx hne
  exact ⟨gj, hf.slave⟩

theorem Conv.heard_gm (hc : Conv net b cb sb) (hx : net[x]? = some (c, s)) {j : Nat} {pj : PortCfg}
    (hj : c.ports[j]? = some pj) {a : Adv} (ha : a ∈ advsOn net pj.seg x j) : a.gm = cb.ownGm ∧ a.sender ≠ c.id := by
  obtain ⟨m, cm, sm, hm, hgm, hid⟩ := hc.plain.heard_src hx hj ha
  exact ⟨hgm.trans (hc.allgm m cm sm hm), hid⟩

/-- **M3 rather than P2** against a port's `Erbest` only if `Ebest` is two or more steps closer to the grandmaster, or
one step closer with the instance's identity below the `Erbest`'s sender. -/
theorem Conv.m3_closer (hc : Conv net b cb sb) (hx : net[x]? = some (c, s)) {g : Adv} {js : Nat}
    (hf : Follows net x c g js) {k : Nat} {e : Adv} (he : (erbestsOf net x c)[k]? = some (some e))
    (hd : followDec c g js (some e) k = .m3) : g.steps + 2 ≤ e.steps ∨ (g.steps + 1 = e.steps ∧ c.id < e.sender) := by
  obtain ⟨hne, hnt⟩ := followDec_m3 hd
  have hjk : js ≠ k := by
    rintro rfl
    exact hne ⟨rfl, Option.some.inj (Option.some.inj ((ebest_erbest hf.ebest).symm.trans he))⟩
  obtain ⟨pg, hpg, _, hgmem, _⟩ := ebest_heard hf.ebest
  obtain ⟨pk, hpk, _, hemem, _⟩ := erbestsOf_spec he
  obtain ⟨hgg, hgne⟩ := hc.heard_gm hx hpg hgmem
  obtain ⟨heg, hene⟩ := hc.heard_gm hx hpk hemem
  have hge : g.gm = e.gm := hgg.trans heg.symm
  -- `Ebest` ranks no lower than `Erbest`, and M3 says it is not merely better by topology
  have hle := ebest_le_erbest hc.stable hc.plain hx hpk he hf.ebest
  have hnl : ((g.cmpDS c.id (js + 1)).compare (e.cmpDS c.id (k + 1))).asOrdering ≠ .lt := by
    rw [cmpDS_compare_key c.id (js + 1) (k + 1) g e hgne hene (fun _ => hge)]
    exact mt keyCmp_gt_iff.mpr hle
  exact compare_same_strict (g.cmpDS c.id (js + 1)) (e.cmpDS c.id (k + 1)) (congrArg Gm.id hge)
    (fun h => hgne h.symm) (fun h => hene h.symm) (fun h => hjk (Nat.add_right_cancel h)) hnl hnt

/-- **Who may be Master next to whom.** A Master port (not the best instance's) that hears another Master port of its
segment is closer to the grandmaster than that one, or equally close with the lower identity. -/
theorem master_lex (hc : Conv net b cb sb) (hx : net[x]? = some (c, s)) (hxb : x ≠ b)
    {k : Nat} {pc : PortCfg} (hk : c.ports[k]? = some pc) (hm : s.ports[k]? = some PSt.master)
    {a : Adv} (ha : a ∈ advsOn net pc.seg x k) :
    s.steps < a.steps ∨ (s.steps = a.steps ∧ c.id < a.sender) := by
  obtain ⟨g, js, hf⟩ := hc.follows_of_ne hx hxb
  -- the port's `Erbest` ranks no lower than `a`, and the port is Master, so its decision against `Erbest` is M3
  obtain ⟨e, herb, hemem, hea⟩ := erbest_le_heard hc.stable hc.plain hx hk ha
  have hd := (hf.ports k pc hk).symm.trans hm
  rw [Option.some.inj ((erbestsOf_plain hc.plain hx hk).symm.trans herb)] at hd
  have h1 : g.steps + 1 < e.steps ∨ (g.steps + 1 = e.steps ∧ c.id < e.sender) :=
    hc.m3_closer hx hf.follows herb ((stOf_master (Option.some.inj hd)).resolve_left (followDec_ne_gm _ _ _ _ _))
  have h2 : e.steps < a.steps ∨ (e.steps = a.steps ∧ e.sender ≤ a.sender) :=
    steps_sender_le_of_key_le (a := e.cmpDS c.id (k + 1)) (b := a.cmpDS c.id (k + 1))
      (congrArg Gm.key ((hc.heard_gm hx hk hemem).1.trans (hc.heard_gm hx hk ha).1.symm)) hea
  -- pairs (stepsRemoved, identity) in lexicographic order: the instance is one step on from `Ebest`
  rw [hf.takes.steps]
  exact lex_lt_of_lt_of_le h1 h2

/-- **Master ports of one segment are strictly ordered** by (stepsRemoved, identity), the best instance's included. -/
theorem master_lt (hc : Conv net b cb sb) {n n' : Nat} {c c' : NodeCfg} {s s' : NodeSt} {k k' : Nat} {pc pc' : PortCfg}
    (hnn : n ≠ n') (hn : net[n]? = some (c, s)) (hn' : net[n']? = some (c', s'))
    (hk : c.ports[k]? = some pc) (hk' : c'.ports[k']? = some pc')
    (hm : s.ports[k]? = some PSt.master) (hm' : s'.ports[k']? = some PSt.master) (hseg : pc.seg = pc'.seg) :
    s.steps < s'.steps ∨ (s.steps = s'.steps ∧ c.id < c'.id) := by
  by_cases hb1 : n = b
  · subst hb1
    cases hc.best.node.symm.trans hn
    -- the best instance is in the grandmaster state, zero steps away; the other one follows somebody
    obtain ⟨g, gj, hf⟩ := hc.follows_of_ne hn' (Ne.symm hnn)
    rw [(best_is_gm hc.stable hc.plain hc.best).steps_eq, hf.takes.steps]
    exact .inl (Nat.succ_pos _)
  · have h := master_lex hc hn hb1 hk hm
      (mem_advsOn.mpr ⟨n', k', c', s', pc', hseg ▸ hc.plain.masterOn hn' hk' hm', fun h => hnn h.1.symm, rfl⟩)
    rwa [advOf_steps, advOf_sender] at h

/-- **At most one Master port per segment.** -/
theorem masters_unique (hc : Conv net b cb sb) {n n' : Nat} {c c' : NodeCfg} {s s' : NodeSt} {k k' : Nat} {pc pc' : PortCfg}
    (hn : net[n]? = some (c, s)) (hn' : net[n']? = some (c', s'))
    (hk : c.ports[k]? = some pc) (hk' : c'.ports[k']? = some pc')
    (hm : s.ports[k]? = some PSt.master) (hm' : s'.ports[k']? = some PSt.master) (hseg : pc.seg = pc'.seg) :
    n = n' ∧ k = k' := by
  by_cases hnn : n = n'
  · subst hnn
    cases hn.symm.trans hn'
    exact ⟨rfl, hc.plain.simple n c s k k' pc pc' hn hk hk' hseg⟩
  · -- each of the two would be strictly below the other
    exact (lex_lt_asymm (master_lt hc hnn hn hn' hk hk' hm hm' hseg)
      (master_lt hc (Ne.symm hnn) hn' hn hk' hk hm' hm hseg.symm)).elim

/-- **At least one.** -/
theorem segment_has_master (hc : Conv net b cb sb) (hx : net[x]? = some (c, s)) {i : Nat} {pi : PortCfg}
    (hi : c.ports[i]? = some pi) :
    ∃ (n : Nat) (cn : NodeCfg) (sn : NodeSt) (k : Nat) (pcn : PortCfg), net[n]? = some (cn, sn) ∧ cn.ports[k]? = some pcn ∧
      pcn.seg = pi.seg ∧ sn.ports[k]? = some PSt.master := by
  obtain ⟨n, k, cn, sn, pcn, hm, _⟩ := master_on_segment hc.stable hc.plain hx hi
  exact ⟨n, cn, sn, k, pcn, hm.node, hm.port, hm.seg, getElem?_of_getD hm.master PSt.noConfusion⟩

end

end Statime.Net
