import StatimeModel.Lemmas.Timers
import StatimeModel.Lemmas.Step
import StatimeModel.Lemmas.Fml
import StatimeModel.Lemmas.Receive
/-
Every port-level call is one of the four things `PortStep` names. The role, frame and timer disciplines (C08, C10, C12)
are proved once, by cases on these.
-/
namespace Statime

structure MayEmit (p : Port) (s : InstState) (m : Msg) : Prop where
  src : m.header.src = p.id
  domain : m.header.domain = s.dflt.domain
  sdoId : m.header.sdoId = s.dflt.sdoId
  seq : ∀ n, p.seqOf m.body.type = some n → m.header.seq = n
  master : m.body.type.masterOnly = true → p.st = .master
  slave : m.body.type = .delayReq → p.st.isSlave = true

theorem MayEmit.frameOK {p : Port} {s : InstState} {m : Msg} {o : Out} (h : MayEmit p s m) (ho : o.frame = some (encode m)) :
    FrameOK p s o :=
  fun b hb => ⟨m, by rw [ho] at hb; exact (Option.some.inj hb).symm, h.src, h.domain, h.sdoId, h.seq⟩

/-- what sending a message of type `ty` does to the port: the counter for `ty` advances; besides the counters only
the state (a Slave port notes its Delay_Req) and the peer delay state (a Pdelay_Req starts an exchange) change -/
structure Sent (p : Port) (ty : MsgType) (q : Port) : Prop where
  rest : q = { p with annSeq := q.annSeq, syncSeq := q.syncSeq, delaySeq := q.delaySeq, pdelaySeq := q.pdelaySeq,
                      st := q.st, peer := q.peer }
  seqs : q.seqs = p.bump (some ty)
  st : StRel p.st q.st

theorem Sent.keeps {p q : Port} {ty : MsgType} (h : Sent p ty q) : Keeps p q :=
  ⟨by rw [h.rest], by rw [h.rest], h.st.noNewSlave, by rw [h.rest], h.st.noNewMaster⟩

/-- what hearing an Announce may do to the port: the foreign master list and the sibling mark are updated, the receipt
timer is reset, TLVs are handed on, and a port other than Slave or Faulty that hears a lower-numbered port of its own
instance becomes Passive -/
structure Heard (p p' : Port) (outs : List Out) : Prop where
  plain : ∀ o ∈ outs, o.plain
  rest : p' = { p with fml := p'.fml, multiportDisable := p'.multiportDisable, st := p'.st }
  own : p'.fml.own = p.fml.own
  st : p'.st = p.st ∨ p'.st = .passive

theorem Heard.keeps {p p' : Port} {outs : List Out} (h : Heard p p' outs) : Keeps p p' := by
  have key : ∀ f : PState → Bool, f .passive = false → f p'.st = true → f p.st = true := fun f hf hp => by
    rcases h.st with e | e <;> rw [e] at hp
    · exact hp
    · rw [hf] at hp; cases hp
  exact ⟨by rw [h.rest], by rw [h.rest], key _ rfl, h.own, key _ rfl⟩

/-- the port is put into state `st` and the timers `rs` are reset -/
structure Put (p : Port) (st : PState) (rs : List Out) (q : Port) (outs : List Out) : Prop where
  rest : q = { p with st := st }
  plain : ∀ o ∈ outs, o.plain
  sub : ∀ o ∈ rs, o ∈ outs

theorem Put.stay {p : Port} {st : PState} {rs : List Out} (h : p.st = st) (hr : ∀ o ∈ rs, o.plain) : Put p st rs p rs :=
  ⟨by rw [← h], hr, fun _ ho => ho⟩

theorem Put.move {p : Port} {st : PState} {rs : List Out} (hr : ∀ o ∈ rs, o.plain) :
    Put p st rs (p.setState st).1 ((p.setState st).2 ++ rs) := by
  refine ⟨rfl, fun o ho => ?_, fun _ ho => List.mem_append_right _ ho⟩
  rcases List.mem_append.1 ho with h | h
  · exact setState_plain p st o h
  · exact hr o h

/-- what one port-level call does, from port `p` and data sets `s` to the port, data sets and actions it returns: a
slave-side handler runs or nothing happens (`side`), one frame is sent (`emit`), an Announce is heard (`heard`), or the
port is put into a state with that state's timers started (`put`: the announce receipt timeout). In each case a timer
that `fired` was not waited on, or is started again. -/
inductive PortStep (p : Port) (s : InstState) (fired : Option Timer) : Port → InstState → List Out → Prop
  | side {p' outs} (h : Touch p p' outs) (hf : ∀ k, fired = some k → p.needs k = false) : PortStep p s fired p' s outs
  /-- the frame `o` says `m` and follows the actions `pre` -/
  | emit {q pre o m} (hm : MayEmit p s m) (hq : Sent p m.body.type q) (ho : o.frame = some (encode m))
      (hpre : ∀ x ∈ pre, x.plain) (hf : ∀ k, fired = some k → ∃ d, Out.reset k d ∈ pre) : PortStep p s fired q s (pre ++ [o])
  | heard {p' s' outs} (hp : Heard p p' outs) (hs : s'.dflt = s.dflt) (hf : fired = none) :
      PortStep p s fired p' s' outs
  /-- `st` is not Slave, Master only where the instance may be master, and `rs` starts every timer it waits on -/
  | put {st rs q outs} (h : Put p st rs q outs) (hs : st.isSlave = false) (hm : st = .master → s.dflt.slaveOnly = false)
      (hn : ∀ k, ({ p with st := st } : Port).needs k = true → ∃ d, .reset k d ∈ rs) : PortStep p s fired q s outs

theorem PortStep.idle {p : Port} {s : InstState} {fired : Option Timer} (hf : ∀ k, fired = some k → p.needs k = false) :
    PortStep p s fired p s [] :=
  .side (.refl p) hf

theorem Ends.step {p : Port} {Q : Port → Prop} {E F : Prop} {x : R (Port × List Out)} (h : Ends p Q E F x) (s : InstState)
    {p' : Port} {outs : List Out} (hx : x = .ok (p', outs)) : PortStep p s none p' s outs :=
  .side (h.touch hx) (fun _ e => nomatch e)

/-! ### the emitting handlers -/

theorem PortStep.timed {p q : Port} {s : InstState} {k : Timer} {d : Dur} {o : Out} {m : Msg} (hm : MayEmit p s m)
    (hq : Sent p m.body.type q) (ho : o.frame = some (encode m)) : PortStep p s (some k) q s [.reset k d, o] :=
  .emit (pre := [.reset k d]) hm hq ho (fun x hx => by rw [List.mem_singleton.1 hx]; trivial)
    fun _ hk => ⟨d, by cases hk; exact List.mem_singleton.2 rfl⟩

theorem sendSync_step {p p' : Port} {s : InstState} {outs : List Out} (h : p.sendSync s = .ok (p', outs)) :
    PortStep p s (some .sync) p' s outs := by
  by_cases hm : p.st = .master
  · rw [sendSync_master s hm] at h; cases h
    exact .timed (m := msgSync s.dflt p.id p.syncSeq p.cfg.minorVersion)
      { src := rfl, domain := rfl, sdoId := rfl, seq := fun n hn => Option.some.inj hn ▸ rfl, master := fun _ => hm,
        slave := fun e => nomatch e } ⟨rfl, rfl, .same rfl⟩ rfl
  · rw [sendSync_other s hm] at h; cases h
    exact .idle fun k hk => by cases hk; exact isMaster_false hm

theorem sendAnnounce_step {p p' : Port} {s : InstState} {q q' : List FwdTlv} {loose : Bool} {outs : List Out}
    (h : p.sendAnnounce s q loose = .ok (p', outs, q')) : PortStep p s (some .announce) p' s outs := by
  by_cases hm : p.st = .master
  · rw [sendAnnounce_master s q loose hm] at h; cases h
    exact .timed (m := p.announceMsg s (p.announceFwd s q loose).1)
      { src := rfl, domain := rfl, sdoId := rfl, seq := fun n hn => Option.some.inj hn ▸ rfl, master := fun _ => hm,
        slave := fun e => nomatch e } ⟨rfl, rfl, .same rfl⟩ rfl
  · rw [sendAnnounce_other s q loose hm] at h; cases h
    exact .idle fun k hk => by cases hk; exact isMaster_false hm

theorem sendDelayRequest_step {p p' : Port} {s : InstState} {outs : List Out} (h : p.sendDelayRequest s = .ok (p', outs)) :
    PortStep p s (some .delay) p' s outs := by
  cases hp : p.cfg.p2p with
  | true =>
    rw [sendDelayRequest_p2p s hp] at h; cases h
    exact .timed (m := msgPdelayReq s.dflt p.id p.pdelaySeq p.cfg.minorVersion)
      { src := rfl, domain := rfl, sdoId := rfl, seq := fun n hn => Option.some.inj hn ▸ rfl,
        master := (fun e => nomatch e), slave := fun e => nomatch e } ⟨rfl, rfl, .same rfl⟩ rfl
  | false =>
    rcases p.st.slave_or_not with ⟨remote, sy, dl, last, hst⟩ | hs
    · have hs : p.st.isSlave = true := by rw [hst]; rfl
      rw [sendDelayRequest_slave s hp hst] at h; cases h
      exact .timed (m := msgDelayReq s.dflt p.id p.delaySeq p.cfg.minorVersion)
        { src := rfl, domain := rfl, sdoId := rfl, seq := fun n hn => Option.some.inj hn ▸ rfl,
          master := (fun e => nomatch e), slave := fun _ => hs } ⟨rfl, rfl, .slave hs rfl⟩ rfl
    · rw [sendDelayRequest_idle s hp hs] at h; cases h
      exact .idle fun k hk => by cases hk; exact hs

/-- a reply: the wire form of a timestamp is put into a message that echoes its sequence number, and that is sent;
the port stays as it is. `h` has the shape the four replying handlers unfold to (their `do` block and the one of the
`msg..` builder inside, two nested `>>=`), so that `handler = .ok (p', outs)` is passed as it stands and fixes `f`. -/
theorem PortStep.reply {p p' : Port} {s : InstState} {ts : Nat} {f : WireTs → Msg} {send : List UInt8 → Out}
    {outs : List Out}
    (h : ((liftOv (timeToWire ts) >>= fun w => .ok (f w)) >>= fun m => .ok (p, [send (encode m)])) = .ok (p', outs))
    (hsend : ∀ b, (send b).frame = some b) (hty : ∀ w, p.seqOf (f w).body.type = none) (hm : ∀ w, MayEmit p s (f w)) :
    PortStep p s none p' s outs := by
  obtain ⟨m, hmm, e⟩ := bindR_ok _ _ _ h
  obtain ⟨w, _, rfl⟩ := liftOv_bind_ok hmm
  cases e
  exact .emit (pre := []) (hm w) ⟨rfl, (bump_of_seqOf_none (hty w)).symm, .same rfl⟩ (hsend _) (fun _ e => nomatch e)
    (fun _ e => nomatch e)

theorem handleSyncTs_step {p p' : Port} {s : InstState} {id ts : Nat} {outs : List Out}
    (h : p.handleSyncTs s id ts = .ok (p', outs)) : PortStep p s none p' s outs := by
  by_cases hm : p.st = .master
  · rw [handleSyncTs_master s id ts hm] at h
    exact .reply (send := fun b => .sendGeneral b false) h (fun _ => rfl) (fun _ => rfl) fun _ =>
      { src := rfl, domain := rfl, sdoId := rfl, seq := (fun _ e => nomatch e), master := fun _ => hm,
        slave := fun e => nomatch e }
  · rw [handleSyncTs_other s id ts hm] at h; cases h
    exact .idle fun _ e => nomatch e

theorem handleDelayReq_step {p p' : Port} {s : InstState} {hd : Header} {ts : Nat} {outs : List Out}
    (hdom : hd.domain = s.dflt.domain) (hsdo : hd.sdoId = s.dflt.sdoId)
    (h : p.handleDelayReq hd ts = .ok (p', outs)) : PortStep p s none p' s outs := by
  by_cases hm : p.st = .master
  · rw [handleDelayReq_master hd ts hm] at h
    exact .reply (send := fun b => .sendGeneral b false) h (fun _ => rfl) (fun _ => rfl) fun _ =>
      { src := rfl, domain := hdom, sdoId := hsdo, seq := (fun _ e => nomatch e), master := fun _ => hm,
        slave := fun e => nomatch e }
  · rw [handleDelayReq_other hd ts hm] at h; cases h
    exact .idle fun _ e => nomatch e

theorem handlePdelayReq_step {p p' : Port} {s : InstState} {hd : Header} {ts : Nat} {outs : List Out}
    (h : p.handlePdelayReq s hd ts = .ok (p', outs)) : PortStep p s none p' s outs :=
  .reply (send := fun b => .sendEvent (.pdelayResp hd.seq hd.src) b true) h (fun _ => rfl) (fun _ => rfl) fun _ =>
    { src := rfl, domain := rfl, sdoId := rfl, seq := (fun _ e => nomatch e), master := (fun e => nomatch e),
      slave := fun e => nomatch e }

theorem handlePdelayRespTs_step {p p' : Port} {s : InstState} {id : Nat} {req : PortId} {ts : Nat} {outs : List Out}
    (h : p.handlePdelayRespTs s id req ts = .ok (p', outs)) : PortStep p s none p' s outs :=
  .reply (send := fun b => .sendGeneral b true) h (fun _ => rfl) (fun _ => rfl) fun _ =>
    { src := rfl, domain := rfl, sdoId := rfl, seq := (fun _ e => nomatch e), master := (fun e => nomatch e),
      slave := fun e => nomatch e }

/-! ### Announces and the receipt timeout -/

theorem Heard.refl (p : Port) : Heard p p [] := ⟨(fun _ h => nomatch h), rfl, rfl, .inl rfl⟩

theorem announceRegister_heard (p : Port) (m : Msg) (a : Ann) :
    Heard p (p.announceRegister m a).1 (p.announceRegister m a).2 := by
  have fwd : ∀ o ∈ [Out.reset .receipt .rand] ++
      ((tlvs m.suffix).filter (fun t => tlvPropagates t.ty)).map (fun t => Out.forward t m.header.src), o.plain := by
    intro o ho
    rcases List.mem_append.1 ho with h | h
    · rw [List.mem_singleton.1 h]; trivial
    · obtain ⟨t, _, rfl⟩ := List.mem_map.1 h
      trivial
  have own := (bmcaRegister_params p.fml p.cfg.acceptable a).own
  unfold Port.announceRegister
  by_cases hr : (bmcaRegister p.fml p.cfg.acceptable a).2 = true
  · rw [if_pos hr]
    dsimp only
    by_cases hsib : p.id.clock = m.header.src.clock ∧ p.id.port > m.header.src.port
    · rw [if_pos hsib]
      by_cases hst : p.st = .faulty ∨ p.st.isSlave = true
      · rw [if_pos hst]; exact ⟨fwd, rfl, own, .inl rfl⟩
      · rw [if_neg hst]
        refine ⟨fun o ho => ?_, rfl, own, .inr rfl⟩
        rw [List.append_assoc] at ho
        rcases List.mem_append.1 ho with h | h
        · exact setState_plain _ _ o h
        · exact fwd o h
    · rw [if_neg hsib]; exact ⟨fwd, rfl, own, .inl rfl⟩
  · rw [if_neg hr]; exact .refl p

theorem announceUpdate_dflt {p : Port} {s s1 : InstState} {m : Msg} {a : Ann} {l : Bool}
    (h : p.announceUpdate s m a = .ok (s1, l)) : s1.dflt = s.dflt := by
  cases announceUpdate_cases h with
  | other | looping => rfl
  | applied => cases pathTlvOf s m <;> rfl

theorem handleAnnounce_step {p p' : Port} {s s' : InstState} {m : Msg} {ab : AnnounceBody} {outs : List Out}
    (h : p.handleAnnounce s m ab = .ok (p', s', outs)) : PortStep p s none p' s' outs := by
  obtain ⟨loop, hu, ⟨_, rfl, rfl⟩ | ⟨_, rfl, rfl⟩⟩ := handleAnnounce_ok h
  · exact .heard (.refl _) (announceUpdate_dflt hu) rfl
  · exact .heard (announceRegister_heard p m _) (announceUpdate_dflt hu) rfl

theorem handleReceiptTimer_step (p : Port) (s : InstState) {fired : Option Timer} :
    PortStep p s fired (p.handleReceiptTimer s).1 s (p.handleReceiptTimer s).2 := by
  have one : ∀ o ∈ [Out.reset .receipt .rand], o.plain := fun o ho => by rw [List.mem_singleton.1 ho]; trivial
  have two : ∀ o ∈ [Out.reset .announce (.exact 0), Out.reset .sync (.exact 0)], o.plain := fun o ho => by
    rcases List.mem_cons.1 ho with e | e
    · rw [e]; trivial
    · rw [List.mem_singleton.1 e]; trivial
  by_cases hf : p.st = .faulty
  · rw [handleReceiptTimer_faulty s hf]
    exact .put (.stay hf one) rfl (fun e => nomatch e) fun k hk => by cases k <;> cases hk
  · cases hso : s.dflt.slaveOnly with
    | true =>
      by_cases hst : p.st = .listening
      · rw [handleReceiptTimer_listening hso hst]
        exact .put (.stay hst one) rfl (fun e => nomatch e) fun _ => listening_covered rfl
      · rw [handleReceiptTimer_toListening hf hso hst]
        exact .put (.move one) rfl (fun e => nomatch e) fun _ => listening_covered rfl
    | false =>
      by_cases hst : p.st = .master
      · rw [handleReceiptTimer_master hso hst]
        exact .put (.stay hst two) rfl (fun _ => hso) fun _ => master_covered rfl
      · rw [handleReceiptTimer_toMaster hf hso hst]
        exact .put (.move two) rfl (fun _ => hso) fun _ => master_covered rfl

/-! ### the receive paths and the transmit timestamps -/

theorem Received.step {p p' : Port} {s s' : InstState} {pm : Option Msg} {ts : Option Nat}
    {x : R (Port × InstState × List Out)} {outs : List Out} (h : Received p s pm ts x)
    (hm : ∀ m, pm = some m → m.header.sdoId = s.dflt.sdoId ∧ m.header.domain = s.dflt.domain)
    (hx : x = .ok (p', s', outs)) : PortStep p s none p' s' outs := by
  cases h with
  | dropped | ignored => cases hx; exact .idle fun _ e => nomatch e
  | announce => exact handleAnnounce_step hx
  | handler h =>
    obtain ⟨⟨q, o⟩, hx, he⟩ := map_ok _ _ _ hx
    cases he
    cases h with
    | followUp => exact (handleFollowUp_ends p _ _).step s hx
    | delayResp => exact (handleDelayResp_ends p _ _ _).step s hx
    | pdelayRespFu => exact (handlePdelayRespFu_ends p _ _ _).step s hx
    | sync => exact (handleSync_ends p _ _ _).step s hx
    | delayReq => exact handleDelayReq_step (hm _ rfl).2 (hm _ rfl).1 hx
    | pdelayReq => exact handlePdelayReq_step hx
    | pdelayResp => exact (handlePdelayResp_ends p _ _ _ _).step s hx

theorem handleSendTimestamp_step {p p' : Port} {s : InstState} {ctx : TsCtx} {ts : Nat} {outs : List Out}
    (h : p.handleSendTimestamp s ctx ts = .ok (p', outs)) : PortStep p s none p' s outs := by
  unfold Port.handleSendTimestamp at h
  split at h
  · exact handleSyncTs_step h
  · exact (handleDelayTs_ends p _ _).step s h
  · exact (handlePdelayTs_ends p _ _).step s h
  · exact handlePdelayRespTs_step h

/-! ### the three disciplines, of every port-level call -/

section
variable {p p' : Port} {s s' : InstState} {fired : Option Timer} {outs : List Out}

/-- **role discipline** (with `keepsW`, `dflt` and `master` below): frames and servo input as the port's role allows -/
theorem PortStep.guarded (h : PortStep p s fired p' s' outs) : Guarded p.st.isMaster p.st.isSlave outs := by
  cases h with
  | side h => exact h.guarded
  | @emit _ _ o m hm hq ho hpre =>
    refine guarded_append (guarded_plain _ _ _ hpre) fun x hx => ?_
    rw [List.mem_singleton.1 hx]
    have e : o.sendType = some m.body.type := by rw [Out.sendType_eq, ho, Option.bind_some, frameType_encode]
    exact ⟨fun ty ht => by rw [e] at ht; cases ht; exact ⟨fun hmo => (isMaster_iff _).2 (hm.master hmo), hm.slave⟩,
      fun mm e' => by rw [e'] at ho; cases ho⟩
  | heard h | put h => exact guarded_plain _ _ _ h.plain

/-- configuration, identity and the instance's own data set stay; no port becomes Slave -/
theorem PortStep.keepsW (h : PortStep p s fired p' s' outs) : KeepsW p p' := by
  cases h with
  | side h => exact h.keeps.weak
  | emit _ hq => exact hq.keeps.weak
  | heard h => exact h.keeps.weak
  | put h hs =>
    refine ⟨by rw [h.rest], by rw [h.rest], fun h1 => ?_, by rw [h.rest]⟩
    rw [h.rest] at h1
    exact absurd (hs ▸ h1) Bool.false_ne_true

theorem PortStep.dflt (h : PortStep p s fired p' s' outs) : s'.dflt = s.dflt := by
  cases h with
  | heard _ hd => exact hd
  | side | emit | put => rfl

/-- a port becomes Master only on an instance that may be master -/
theorem PortStep.master (h : PortStep p s fired p' s' outs) (h1 : p'.st.isMaster = true) :
    p.st.isMaster = true ∨ s.dflt.slaveOnly = false := by
  cases h with
  | side h => exact .inl (h.keeps.noNewMaster h1)
  | emit _ hq => exact .inl (hq.keeps.noNewMaster h1)
  | heard h => exact .inl (h.keeps.noNewMaster h1)
  | put h _ hm =>
    rw [h.rest] at h1
    exact .inr (hm ((isMaster_iff _).1 h1))

end

theorem PortStep.frames {p p' : Port} {s s' : InstState} {fired : Option Timer} {outs : List Out}
    (h : PortStep p s fired p' s' outs) : Frames p s p' outs := by
  cases h with
  | side h => exact frames_of_quiet _ _ _ _ h.quiet
  | emit hm hq ho hpre =>
    exact frames_one (fun x hx => Out.frame_of_plain (hpre x hx)) ho (hm.frameOK ho)
      (by rw [frameType_encode]; exact hq.seqs) hq.keeps.weak.id hq.keeps.weak.cfg
  | heard h | put h =>
    exact frames_of_quiet _ _ _ _
      ⟨fun o ho => Out.frame_of_plain (h.plain o ho), by rw [h.rest]; rfl, by rw [h.rest], by rw [h.rest]⟩

theorem PortStep.rearm {p p' : Port} {s s' : InstState} {fired : Option Timer} {outs : List Out}
    (h : PortStep p s fired p' s' outs) : Rearm p p' outs fired := by
  cases h with
  | side h hf => exact (rearm_of_strel _ _ _ h.st).fired fun k e hn => by rw [hf k e] at hn; cases hn
  | emit _ hq _ _ hf =>
    exact (rearm_of_strel _ _ _ hq.st).fired fun k e _ => (hf k e).imp fun _ hd => List.mem_append_left _ hd
  | heard h _ hf =>
    rw [hf]
    rcases h.st with e | e
    · exact rearm_of_strel _ _ _ (.same e)
    · exact rearm_of_idle _ _ _ _ (.inl e)
  | put h _ _ hn =>
    rw [h.rest]
    exact fun k hk => .inr (.inl ((hn k hk).imp fun d hd => h.sub _ hd))

def Op.fired : Op → Option Timer
  | .tmr _ t => some t
  | .tmrAnnounce .. => some .announce
  | _ => none

theorem PortCall.step {s : InstState} {k : Nat} {p : Port} {op : Op} {p' : Port} {s' : InstState} {o : List Out} {n : Nat}
    (h : PortCall s k p op (p', s', o, n)) : PortStep p s op.fired p' s' o := by
  cases h with
  | gen hx => exact (handleGeneralReceive_cases p s _).step (fun m hm => (parseAndFilter_spec s _ m hm).2.2) hx
  | evt hx => exact (handleEventReceive_cases p s _ _).step (fun m hm => (parseAndFilter_spec s _ m hm).2.2) hx
  | fwd hx => exact sendAnnounce_step hx
  | announce hx => exact sendAnnounce_step hx
  | sync hx => exact sendSync_step hx
  | delay hx => exact sendDelayRequest_step hx
  | receipt => exact handleReceiptTimer_step p s
  | txts hx => exact handleSendTimestamp_step hx

end Statime
