import StatimeModel.Model.Port
import StatimeModel.Lemmas.Result
/-
The receive paths of a port (`handle_general_receive`, `handle_event_receive`) as a relation: `Received` says which
handler a frame is passed to and what the call returns; proofs about a received frame go by cases on it (C07, whose
theorems compute the result for given message types, unfolds the dispatch itself). Before it, what `handle_announce`
does to the data sets, inverted (`announceUpdate_cases`, `handleAnnounce_ok`).
-/
namespace Statime

theorem parseAndFilter_spec (s : InstState) (data : List UInt8) (m : Msg) (h : parseAndFilter s data = some m) :
    isCompatible data = true ∧ decode data = .ok m ∧ m.header.sdoId = s.dflt.sdoId ∧ m.header.domain = s.dflt.domain := by
  unfold parseAndFilter at h
  split at h
  · cases h
  · rename_i hcomp
    split at h
    · cases h
    · rename_i m' hd
      split at h
      · rename_i hc
        cases h
        exact ⟨by simpa using hcomp, hd, hc.1, hc.2⟩
      · cases h

/-- `applyParent` never fails: stepsRemoved saturates -/
theorem applyParent_eq (s : InstState) (a : Ann) :
    s.applyParent a = .ok (s.withParent a (if a.body.steps + 1 ≥ 65536 then 65535 else a.body.steps + 1)) := rfl

theorem applyParentS1_ok {s s1 : InstState} {a : Ann} (h : s.applyParentS1 a = .ok s1) :
    a.body.steps + 1 < 65536 ∧ s1 = s.withParent a (a.body.steps + 1) := by
  unfold InstState.applyParentS1 at h
  split at h
  · cases h
  · next hlt => cases h; exact ⟨Nat.lt_of_not_ge hlt, rfl⟩

/-- the data sets with the path of the received PATH_TRACE TLV stored, if there is one -/
def InstState.withPath (s : InstState) (pt : Option Tlv) : InstState :=
  match pt with
  | some t => { s with pathTrace := (pathOf t.value).take PATH_TRACE_CAP }
  | none => s

/-- `storePath` never fails: a longer path is cut off -/
theorem storePath_eq (s : InstState) (pt : Option Tlv) : storePath s pt = .ok (s.withPath pt) := by
  cases pt <;> rfl

/-- the three ways `handle_announce` treats the data sets, with the data sets after it and "clock loop detected": the
Announce is not the parent's on a Slave port (`other`); it is, and its path loops back (`looping`); it is `applied`:
table 33, stepsRemoved saturating, then the received path -/
inductive AnnounceUpdated (p : Port) (s : InstState) (m : Msg) (a : Ann) : InstState → Bool → Prop
  | other (notParent : ¬ (p.st.isSlave = true ∧ a.hdr.src = s.parent.parentPort)) : AnnounceUpdated p s m a s false
  | looping (slave : p.st.isSlave = true) (parent : a.hdr.src = s.parent.parentPort)
      (loops : loopsBack s (pathTlvOf s m) = true) : AnnounceUpdated p s m a s true
  | applied (slave : p.st.isSlave = true) (parent : a.hdr.src = s.parent.parentPort)
      (noLoop : loopsBack s (pathTlvOf s m) = false) :
      AnnounceUpdated p s m a
        ((s.withParent a (if a.body.steps + 1 ≥ 65536 then 65535 else a.body.steps + 1)).withPath (pathTlvOf s m)) false

theorem announceUpdate_cases {p : Port} {s s1 : InstState} {m : Msg} {a : Ann} {loop : Bool}
    (h : p.announceUpdate s m a = .ok (s1, loop)) : AnnounceUpdated p s m a s1 loop := by
  unfold Port.announceUpdate at h
  split at h
  · next hc =>
    split at h
    · next hl => cases h; exact .looping hc.1 hc.2 hl
    · next hl =>
      rw [applyParent_eq] at h
      dsimp only at h
      rw [storePath_eq] at h
      cases h
      exact .applied hc.1 hc.2 (Bool.eq_false_iff.2 hl)
  · next hc => cases h; exact .other hc

theorem handleAnnounce_ok {p p' : Port} {s s' : InstState} {m : Msg} {ab : AnnounceBody} {outs : List Out}
    (h : p.handleAnnounce s m ab = .ok (p', s', outs)) :
    ∃ loop, p.announceUpdate s m ⟨m.header, ab⟩ = .ok (s', loop) ∧
      ((loop = true ∧ p' = p ∧ outs = []) ∨
       (loop = false ∧ p' = (p.announceRegister m ⟨m.header, ab⟩).1 ∧ outs = (p.announceRegister m ⟨m.header, ab⟩).2)) := by
  unfold Port.handleAnnounce at h
  cases hu : p.announceUpdate s m ⟨m.header, ab⟩ with
  | error e => rw [hu] at h; cases h
  | ok r =>
    obtain ⟨s1, loop⟩ := r
    rw [hu] at h
    cases loop <;> cases h
    · exact ⟨false, rfl, .inr ⟨rfl, rfl, rfl⟩⟩
    · exact ⟨true, rfl, .inl ⟨rfl, rfl, rfl⟩⟩

/-- the handler that message `m` is passed to when its type is one of the seven whose handlers cannot touch the data
sets, and what that handler returns; `ts` is the receive timestamp on the event interface, `none` on the general one -/
inductive Handler (p : Port) (s : InstState) (m : Msg) : Option Nat → R (Port × List Out) → Prop
  | followUp {ts o} (hb : m.body = .followUp o) : Handler p s m ts (p.handleFollowUp m.header o)
  | delayResp {ts rx req} (hb : m.body = .delayResp rx req) : Handler p s m ts (p.handleDelayResp m.header rx req)
  | pdelayRespFu {ts o req} (hb : m.body = .pdelayRespFu o req) : Handler p s m ts (p.handlePdelayRespFu m.header o req)
  | sync {ts o} (hb : m.body = .sync o) : Handler p s m (some ts) (p.handleSync m.header o ts)
  | delayReq {ts o} (hb : m.body = .delayReq o) : Handler p s m (some ts) (p.handleDelayReq m.header ts)
  | pdelayReq {ts o} (hb : m.body = .pdelayReq o) : Handler p s m (some ts) (p.handlePdelayReq s m.header ts)
  | pdelayResp {ts rx req} (hb : m.body = .pdelayResp rx req) :
      Handler p s m (some ts) (p.handlePdelayResp m.header rx req ts)

/-- what becomes of a received frame, `pm` being what `parse_and_filter` makes of it, and what the call returns: the
filter drops it; an Announce goes to `handle_announce`; a message of seven other types to its handler, the data sets
staying; any other is ignored (on the general interface also the event messages) -/
inductive Received (p : Port) (s : InstState) : Option Msg → Option Nat → R (Port × InstState × List Out) → Prop
  | dropped {ts} : Received p s none ts (.ok (p, s, []))
  | announce {m ts ab} (hb : m.body = .announce ab) : Received p s (some m) ts (p.handleAnnounce s m ab)
  | handler {m ts x} (h : Handler p s m ts x) : Received p s (some m) ts (x.map fun (p, o) => (p, s, o))
  | ignored {m ts} : Received p s (some m) ts (.ok (p, s, []))

theorem handleGeneralInternal_cases (p : Port) (s : InstState) (m : Msg) (ts : Option Nat) :
    Received p s (some m) ts (p.handleGeneralInternal s m) := by
  unfold Port.handleGeneralInternal
  split
  · exact .announce ‹_›
  · exact .handler (.followUp ‹_›)
  · exact .handler (.delayResp ‹_›)
  · exact .handler (.pdelayRespFu ‹_›)
  · exact .ignored

theorem handleGeneralReceive_cases (p : Port) (s : InstState) (data : List UInt8) :
    Received p s (parseAndFilter s data) none (p.handleGeneralReceive s data) := by
  unfold Port.handleGeneralReceive
  cases parseAndFilter s data with
  | none => exact .dropped
  | some m => exact handleGeneralInternal_cases p s m none

theorem handleEventReceive_cases (p : Port) (s : InstState) (data : List UInt8) (ts : Nat) :
    Received p s (parseAndFilter s data) (some ts) (p.handleEventReceive s data ts) := by
  unfold Port.handleEventReceive
  cases parseAndFilter s data with
  | none => exact .dropped
  | some m =>
    dsimp only
    split
    · exact .handler (.sync ‹_›)
    · exact .handler (.delayReq ‹_›)
    · exact .handler (.pdelayReq ‹_›)
    · exact .handler (.pdelayResp ‹_›)
    · exact handleGeneralInternal_cases p s m _

end Statime
