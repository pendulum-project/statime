import StatimeModel.Model.Port
/- The result type `R` of the handlers: a successful result of `liftOv`, `orOv`, `map`, `>>=` comes from a successful
argument. -/
namespace Statime

theorem liftOv_ok {α} (x : Option α) (v : α) : liftOv x = .ok v ↔ x = some v := by
  cases x <;> simp [liftOv]

theorem orOv_ok {α β : Type} (x : Option α) (f : α → R β) (r : β) (h : orOv x f = .ok r) :
    ∃ a, x = some a ∧ f a = .ok r := by
  cases x with
  | none => simp [orOv] at h
  | some a => exact ⟨a, rfl, h⟩

theorem map_ok {α β : Type} (x : R α) (f : α → β) (b : β) (h : (x.map f) = .ok b) : ∃ a, x = .ok a ∧ f a = b := by
  cases x with
  | error e => cases h
  | ok a => exact ⟨a, rfl, by simpa [Except.map] using h⟩

theorem bindR_ok {α β : Type} (x : R α) (f : α → R β) (b : β) (h : (x >>= f) = .ok b) : ∃ a, x = .ok a ∧ f a = .ok b := by
  cases x with
  | error e => cases h
  | ok a => exact ⟨a, rfl, h⟩

theorem liftOv_bind_ok {α β : Type} {x : Option α} {f : α → β} {b : β}
    (h : (liftOv x >>= fun a => .ok (f a)) = .ok b) : ∃ a, x = some a ∧ b = f a := by
  obtain ⟨a, ha, e⟩ := bindR_ok _ _ _ h
  exact ⟨a, (liftOv_ok _ _).1 ha, (Except.ok.inj e).symm⟩

theorem orOv_bind {α β γ : Type} (x : Option α) (g : α → Option β) (k : β → R γ) :
    (orOv x fun a => orOv (g a) k) = orOv (x.bind g) k := by
  cases x <;> rfl

def FailsOnly {α : Type} (P : Panic → Prop) (x : R α) : Prop := ∀ e, x = .error e → P e

theorem FailsOnly.ok {α : Type} {P : Panic → Prop} (a : α) : FailsOnly P (.ok a) := fun _ h => nomatch h

theorem FailsOnly.bind {α β : Type} {P : Panic → Prop} {x : R α} {f : α → R β} (hx : FailsOnly P x)
    (hf : ∀ a, FailsOnly P (f a)) : FailsOnly P (x >>= f) := by
  cases x with
  | error e =>
    intro e' h
    cases h
    exact hx e rfl
  | ok a => exact hf a

end Statime
