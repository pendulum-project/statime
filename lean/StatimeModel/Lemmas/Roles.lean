import StatimeModel.Lemmas.Slave
import StatimeModel.Lemmas.WireBasic
/-
The role discipline (C08): which message type may come from a port in which state and who may feed the servo
(`Guarded`; `Out.plain` are the outputs that are neither), what every handler keeps of a port (`KeepsW`, `Keeps`), and
that a slave-side call (`Touch`) obeys both. The discipline is proved of every handler in `PortStep.lean`.
-/
namespace Statime

/-- the messageType nibble (low half of octet 0) of the frame sent: `frameType` of it (`Out.sendType_eq`, Frames.lean) -/
def Out.sendType : Out → Option MsgType
  | .sendEvent _ b _ => MsgType.ofNibble (byteAt b 0 % 16)
  | .sendGeneral b _ => MsgType.ofNibble (byteAt b 0 % 16)
  | _ => none

/-- the message types only a Master port sends (not the port setting `PortCfg.masterOnly`, "never Slave") -/
def MsgType.masterOnly : MsgType → Bool
  | .announce | .sync | .followUp | .delayResp => true
  | _ => false

def PState.isMaster : PState → Bool | .master => true | _ => false

theorem isMaster_iff (st : PState) : st.isMaster = true ↔ st = .master := by
  cases st <;> simp [PState.isMaster]

theorem isMaster_false {st : PState} (h : st ≠ .master) : st.isMaster = false := by
  cases st <;> first | rfl | exact absurd rfl h

theorem PState.slave_or_not (st : PState) :
    (∃ remote sy dl last, st = .slave remote sy dl last) ∨ st.isSlave = false := by
  cases st with
  | slave remote sy dl last => exact .inl ⟨_, _, _, _, rfl⟩
  | _ => exact .inr rfl

/-- the role discipline of one action list produced by a port whose state (before the call) was
Master (`ma`) / Slave (`sl`) -/
def Guarded (ma sl : Bool) (outs : List Out) : Prop :=
  ∀ o ∈ outs,
    (∀ ty, o.sendType = some ty → (ty.masterOnly = true → ma = true) ∧ (ty = .delayReq → sl = true)) ∧
    (∀ m, o = .measurement m → (m.rawSync.isSome ∨ m.rawDelay.isSome) → sl = true)

theorem guarded_nil (ma sl : Bool) : Guarded ma sl [] := by intro o ho; cases ho

theorem guarded_append {ma sl : Bool} {a b : List Out} (ha : Guarded ma sl a) (hb : Guarded ma sl b) :
    Guarded ma sl (a ++ b) := by
  intro o ho
  rcases List.mem_append.1 ho with h | h
  · exact ha o h
  · exact hb o h

def Out.plain : Out → Prop
  | .sendEvent .. | .sendGeneral .. | .measurement _ => False
  | _ => True

theorem guarded_plain (ma sl : Bool) (outs : List Out) (h : ∀ o ∈ outs, o.plain) : Guarded ma sl outs := by
  intro o ho
  have hp := h o ho
  cases o with
  | sendEvent | sendGeneral | measurement => exact hp.elim
  | _ => exact ⟨(fun _ e => nomatch e), (fun _ e => nomatch e)⟩

structure KeepsW (p p' : Port) : Prop where
  cfg : p'.cfg = p.cfg
  id : p'.id = p.id
  noNewSlave : p'.st.isSlave = true → p.st.isSlave = true
  own : p'.fml.own = p.fml.own

/-- `KeepsW` and "not newly Master": holds of every port-level handler except the announce receipt timeout -/
def Keeps (p p' : Port) : Prop :=
  p'.cfg = p.cfg ∧ p'.id = p.id ∧ (p'.st.isSlave = true → p.st.isSlave = true) ∧ p'.fml.own = p.fml.own ∧
  (p'.st.isMaster = true → p.st.isMaster = true)

theorem Keeps.weak {p p' : Port} (h : Keeps p p') : KeepsW p p' := ⟨h.1, h.2.1, h.2.2.1, h.2.2.2.1⟩

theorem Keeps.noNewMaster {p p' : Port} (h : Keeps p p') : p'.st.isMaster = true → p.st.isMaster = true := h.2.2.2.2

theorem Keeps.of_weak {p p' : Port} (w : KeepsW p p') (hm : p'.st.isMaster = true → p.st.isMaster = true) : Keeps p p' :=
  ⟨w.cfg, w.id, w.noNewSlave, w.own, hm⟩

theorem keeps_refl (p : Port) : Keeps p p := .of_weak { cfg := rfl, id := rfl, noNewSlave := fun h => h, own := rfl } fun h => h

theorem keeps_trans {a b c : Port} (h1 : Keeps a b) (h2 : Keeps b c) : Keeps a c :=
  .of_weak
    { cfg := h2.weak.cfg.trans h1.weak.cfg, id := h2.weak.id.trans h1.weak.id,
      noNewSlave := fun h => h1.weak.noNewSlave (h2.weak.noNewSlave h), own := h2.weak.own.trans h1.weak.own }
    fun h => h1.noNewMaster (h2.noNewMaster h)

theorem StRel.noNewMaster {st st' : PState} (h : StRel st st') (hm : st'.isMaster = true) : st.isMaster = true := by
  cases h with
  | same h => rw [← h]; exact hm
  | slave _ h' => rw [(isMaster_iff _).1 hm] at h'; cases h'
  | faulty h => rw [h] at hm; cases hm
  | recovered _ h' => rw [h'] at hm; cases hm

theorem Touch.keeps {p p' : Port} {outs : List Out} (h : Touch p p' outs) : Keeps p p' :=
  .of_weak { cfg := by rw [h.rest], id := by rw [h.rest], noNewSlave := h.st.noNewSlave, own := by rw [h.rest] }
    h.st.noNewMaster

theorem Touch.guarded {p p' : Port} {outs : List Out} (h : Touch p p' outs) :
    Guarded p.st.isMaster p.st.isSlave outs := by
  intro o ho
  rcases h.outs o ho with rfl | ⟨m, rfl, hm⟩
  · exact ⟨(fun _ e => nomatch e), (fun _ e => nomatch e)⟩
  · exact ⟨(fun _ e => nomatch e), fun m' e => by cases e; exact hm⟩

theorem setState_plain (p : Port) (st : PState) : ∀ o ∈ (p.setState st).2, o.plain :=
  fun o ho => by rw [mem_setState ho]; trivial

end Statime
