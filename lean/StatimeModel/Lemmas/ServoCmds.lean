import StatimeModel.Lemmas.ServoL
/-
What each servo call hands to the clock. Only three functions emit commands (`changeFrequency`, `stepClock`,
`ensureFreqInit`): `*_some` says what a successful call returns in terms of those three, `*_ctl` that a call which
only keeps books leaves the configuration and the programmed frequency alone (`SameCtl`). So every command has one of
three origins (`Origin`): that is what the bound and threshold theorems rest on.
-/
namespace Statime.Servo
open Statime

def SameCtl (k k' : Kalman) : Prop := k'.cfg = k.cfg ∧ k'.cur = k.cur

theorem SameCtl.cfg {k k' : Kalman} (h : SameCtl k k') : k'.cfg = k.cfg := h.1

theorem SameCtl.cur {k k' : Kalman} (h : SameCtl k k') : k'.cur = k.cur := h.2

theorem SameCtl.trans {a b c : Kalman} (h1 : SameCtl a b) (h2 : SameCtl b c) : SameCtl a c :=
  ⟨h2.cfg.trans h1.cfg, h2.cur.trans h1.cur⟩

theorem SameCtl.ite {k a b : Kalman} {c : Prop} [Decidable c] (ha : SameCtl k a) (hb : SameCtl k b) :
    SameCtl k (if c then a else b) := by
  split <;> assumption

/-- resetting the score and scaling the wander touches neither -/
theorem SameCtl.ite_w {k x : Kalman} {c : Prop} [Decidable c] {w : Nat} {ws : Int} (h : SameCtl k x) :
    SameCtl k (if c then { x with w := w, ws := ws } else x) := SameCtl.ite h h

variable {A : Arith} {k k' : Kalman} {m : Meas} {clk : ClockIn} {cs : List Cmd} {u : Upd}

theorem wanderScoreUpdate_ctl {u p a : Nat} (h : k.wanderScoreUpdate A u p a = some k') : SameCtl k k' := by
  unfold Kalman.wanderScoreUpdate at h
  obtain ⟨mv, _, h⟩ := Option.map_eq_some_iff.1 h
  subst h
  exact .ite ⟨rfl, rfl⟩ (.ite ⟨rfl, rfl⟩ ⟨rfl, rfl⟩)

/-- the optional score update of `updateWander`, for either kind of offset; the hypothesis is the model's `k1` / `k2`,
copied (`updateWander_ctl` applies it to the unfolded definition) -/
theorem wanderOpt_ctl (x : Option Int) (hm : Mat)
    (h : (match x with
      | some so =>
        let (p, u) := k.wan.predict A hm k.cfg
        k.wanderScoreUpdate A u p (durSeconds A so)
      | none => some k) = some k') : SameCtl k k' := by
  cases x with
  | none => cases h; exact ⟨rfl, rfl⟩
  | some so => exact wanderScoreUpdate_ctl h

theorem updateWander_ctl (h : k.updateWander A m = some k') : SameCtl k k' := by
  unfold Kalman.updateWander at h
  obtain ⟨wan, _, h⟩ := Option.bind_eq_some_iff.1 h
  obtain ⟨k1, h1, h⟩ := Option.bind_eq_some_iff.1 h
  obtain ⟨k2, h2, h⟩ := Option.bind_eq_some_iff.1 h
  have e1 : SameCtl k k1 := wanderOpt_ctl (k := { k with wan := wan }) m.rawSync hSync h1
  have e2 := e1.trans (wanderOpt_ctl m.rawDelay hDelay h2)
  cases (Option.ite_none_left_eq_some.1 h).2
  exact e2.ite_w.ite_w

theorem changeFrequency_some {t : Nat} (h : k.changeFrequency A t clk = some (k', cs)) :
    k'.cfg = k.cfg ∧
    ((k.cur = none ∧ k' = k ∧ cs = []) ∨
      ∃ cur ok, k.cur = some cur ∧
        cs = [.freq (clampFrequency A cur (A.sub t (A.mul k.run.freqOffset c1e6)) k.cfg.mf) ok]) := by
  unfold Kalman.changeFrequency at h
  cases hc : k.cur with
  | none => rw [hc] at h; cases h; exact ⟨rfl, .inl ⟨rfl, rfl, rfl⟩⟩
  | some cur =>
    rw [hc] at h
    simp only at h
    split at h
    · cases h; exact ⟨rfl, .inr ⟨cur, false, rfl, rfl⟩⟩
    · obtain ⟨run, _, h⟩ := Option.bind_eq_some_iff.1 h
      obtain ⟨wan, _, h⟩ := Option.map_eq_some_iff.1 h
      cases h; exact ⟨rfl, .inr ⟨cur, true, rfl, rfl⟩⟩

theorem stepClock_some {off : Nat} (h : k.stepClock A off clk = some (k', cs)) :
    SameCtl k k' ∧ ∃ d ok, cs = [.step d ok] ∧ durFromSeconds (f64Neg off) = some d := by
  unfold Kalman.stepClock at h
  obtain ⟨d, hd, h⟩ := Option.bind_eq_some_iff.1 h
  split at h
  · cases h; exact ⟨⟨rfl, rfl⟩, d, false, rfl, hd⟩
  · obtain ⟨run, _, h⟩ := Option.bind_eq_some_iff.1 h
    obtain ⟨wan, _, h⟩ := Option.map_eq_some_iff.1 h
    cases h; exact ⟨⟨rfl, rfl⟩, d, true, rfl, hd⟩

theorem ensureFreqInit_spec (k : Kalman) (clk : ClockIn) :
    (k.ensureFreqInit clk).1.cfg = k.cfg ∧ ∀ c ∈ (k.ensureFreqInit clk).2, ∃ ok, c = .freq cZero ok := by
  unfold Kalman.ensureFreqInit
  cases k.cur with
  | some c => exact ⟨rfl, fun _ h => nomatch h⟩
  | none => cases clk.failFreq <;> exact ⟨rfl, fun _ h => ⟨_, List.mem_singleton.1 h⟩⟩

theorem steer_some (h : k.steer A clk = some (k', cs, u)) :
    (f64Lt (f64Abs k.run.offset) (durSeconds A k.cfg.thr) = true ∧ u.nextUpdate = true ∧
      ∃ t, k.changeFrequency A t clk = some (k', cs)) ∨
    (f64Lt (f64Abs k.run.offset) (durSeconds A k.cfg.thr) = false ∧ u.nextUpdate = false ∧
      k.stepClock A k.run.offset clk = some (k', cs)) := by
  unfold Kalman.steer at h
  dsimp only at h
  -- `by_cases` and `rw` with the test: `split at h` runs `simp` over the whole function
  by_cases hlt : f64Lt (f64Abs k.run.offset) (durSeconds A k.cfg.thr) = true
  · rw [if_pos hlt] at h
    obtain ⟨target, -, h⟩ := Option.bind_eq_some_iff.1 h
    obtain ⟨⟨k1, c1⟩, hcf, h⟩ := Option.bind_eq_some_iff.1 h
    by_cases hd : coreDurationOk (durSeconds A k.cfg.st) = true
    · rw [if_pos hd] at h
      obtain ⟨md, -, h⟩ := Option.map_eq_some_iff.1 h
      cases h; exact .inl ⟨hlt, rfl, target, hcf⟩
    · rw [if_neg hd] at h
      cases h
  · rw [if_neg hlt] at h
    obtain ⟨⟨k1, c1⟩, hst, h⟩ := Option.bind_eq_some_iff.1 h
    obtain ⟨md, -, h⟩ := Option.map_eq_some_iff.1 h
    cases h; exact .inr ⟨Bool.not_eq_true _ ▸ hlt, rfl, hst⟩

theorem update_some (h : k.update A clk = some (k', cs, u)) : k.changeFrequency A cZero clk = some (k', cs) := by
  unfold Kalman.update at h
  obtain ⟨⟨k1, c1⟩, hcf, h⟩ := Option.bind_eq_some_iff.1 h
  obtain ⟨md, _, h⟩ := Option.map_eq_some_iff.1 h
  cases h; exact hcf

theorem demobilize_some (h : k.demobilize A clk = some cs) : ∃ k', k.changeFrequency A cZero clk = some (k', cs) := by
  unfold Kalman.demobilize at h
  obtain ⟨⟨k1, c1⟩, hcf, h⟩ := Option.map_eq_some_iff.1 h
  cases h; exact ⟨k1, hcf⟩

/-- the optional "ensure_freq_init, then absorb an offset" step of `measurement`; `hr` is the model's `s1` / `s2`, copied
(`measurement_some` applies it to the unfolded definition) -/
theorem absorbStep_some (A : Arith) (k : Kalman) (clk : ClockIn) (x : Option Int) (h : Mat) (r : Kalman × List Cmd)
    (hr : (match x with
      | some so =>
        let (k, c) := k.ensureFreqInit clk
        (k.noiseFor A).map fun v => ({ k with run := k.run.absorbOffset A (durSeconds A so) v h k.cfg }, c)
      | none => some (k, [])) = some r) :
    r.1.cfg = k.cfg ∧ (∀ c ∈ r.2, ∃ ok, c = .freq cZero ok) ∧ (x = none → r = (k, [])) := by
  cases x with
  | none => cases hr; exact ⟨rfl, (fun _ h => nomatch h), fun _ => rfl⟩
  | some so =>
    obtain ⟨e1, e2⟩ := ensureFreqInit_spec k clk
    generalize k.ensureFreqInit clk = p at *
    obtain ⟨k1, c1⟩ := p
    obtain ⟨v, _, hr⟩ := Option.map_eq_some_iff.1 hr
    cases hr
    exact ⟨e1, e2, fun hx => nomatch hx⟩

/-- likewise the model's `s3`, the optional absorption of a peer delay -/
theorem absorbPeer_ctl (x : Option Int)
    (h : (match x with
      | some pd => (k.noiseFor A).map fun v => { k with run := k.run.absorbPeer A (durSeconds A pd) v }
      | none => some k) = some k') : SameCtl k k' := by
  cases x with
  | none => cases h; exact ⟨rfl, rfl⟩
  | some pd =>
    obtain ⟨v, _, h⟩ := Option.map_eq_some_iff.1 h
    cases h; exact ⟨rfl, rfl⟩

/-- what a port that is not Slave hands its servo: peer delay results only -/
def PeerOnly (m : Meas) : Prop := m.rawSync = none ∧ m.rawDelay = none

/-- where `measurement` stands when it comes to `steer`: `k4` is the servo it steers, `cs` the commands so far (up to
two `ensure_freq_init`, none for a peer delay result) -/
structure Prepared (k : Kalman) (m : Meas) (k4 : Kalman) (cs : List Cmd) : Prop where
  cfg : k4.cfg = k.cfg
  zero : ∀ c ∈ cs, ∃ ok, c = .freq cZero ok
  peerOnly : PeerOnly m → cs = [] ∧ k4.cur = k.cur

theorem measurement_some (h : k.measurement A m clk = some (k', cs, u)) :
    (k' = k ∧ cs = []) ∨
    ∃ (k4 : Kalman) (c12 c3 : List Cmd), Prepared k m k4 c12 ∧ cs = c12 ++ c3 ∧ k4.steer A clk = some (k', c3, u) := by
  unfold Kalman.measurement at h
  by_cases hc : (!k.run.afterFilterTime m.eventTime) = true
  · rw [if_pos hc] at h
    cases h; exact .inl ⟨rfl, rfl⟩
  · rw [if_neg hc] at h
    obtain ⟨est, -, h⟩ := Option.bind_eq_some_iff.1 h
    obtain ⟨k1, hw, h⟩ := Option.bind_eq_some_iff.1 h
    have w := updateWander_ctl hw
    obtain ⟨run, -, h⟩ := Option.bind_eq_some_iff.1 h
    obtain ⟨⟨k2, c1⟩, h2, h⟩ := Option.bind_eq_some_iff.1 h
    obtain ⟨a1, a2, a3⟩ := absorbStep_some A { k1 with run := run } clk m.rawSync hSync (k2, c1) h2
    obtain ⟨⟨k3, c2⟩, h3, h⟩ := Option.bind_eq_some_iff.1 h
    obtain ⟨b1, b2, b3⟩ := absorbStep_some A k2 clk m.rawDelay hDelay (k3, c2) h3
    obtain ⟨k4, h4, h⟩ := Option.bind_eq_some_iff.1 h
    have p := absorbPeer_ctl m.peerDelay h4
    obtain ⟨⟨k5, c3, u5⟩, h5, h⟩ := Option.map_eq_some_iff.1 h
    cases h
    refine .inr ⟨k4, c1 ++ c2, c3, ⟨p.cfg.trans (b1.trans (a1.trans w.cfg)), ?_, ?_⟩, rfl, h5⟩
    · exact fun c hc => (List.mem_append.1 hc).elim (a2 c) (b2 c)
    · intro hpo
      -- the equations are used as they are: substituting them into this context is slow
      obtain ⟨e2, n1⟩ := Prod.mk.inj (a3 hpo.1)
      obtain ⟨e3, n2⟩ := Prod.mk.inj (b3 hpo.2)
      exact ⟨List.append_eq_nil_iff.2 ⟨n1, n2⟩, p.cur.trans ((congrArg Kalman.cur (e3.trans e2)).trans w.cur)⟩

/-- one unfolding of `kstep`: a property `Q` of the commands of every successful call, with an invariant `I` of
the servo it leaves behind -/
theorem kstep_inv {I : Kalman → Prop} {Q : List Cmd → Prop} (op : KOp) (h0 : Q [])
    (hm : ∀ m clk k' cs u, op = .meas m clk → k.measurement A m clk = some (k', cs, u) → Q cs ∧ I k')
    (hu : ∀ clk k' cs u, op = .upd clk → k.update A clk = some (k', cs, u) → Q cs ∧ I k')
    (hd : ∀ clk cs, op = .demob clk → k.demobilize A clk = some cs → Q cs) :
    Q (kstep A (some k) op).2 ∧ ∀ k', (kstep A (some k) op).1 = some k' → I k' := by
  unfold kstep
  cases op with
  | meas m clk =>
    simp only
    cases hh : k.measurement A m clk with
    | none => exact ⟨h0, fun _ h => nomatch h⟩
    | some r => exact (hm m clk r.1 r.2.1 r.2.2 rfl hh).imp id fun i _ h => Option.some.inj h ▸ i
  | upd clk =>
    simp only
    cases hh : k.update A clk with
    | none => exact ⟨h0, fun _ h => nomatch h⟩
    | some r => exact (hu clk r.1 r.2.1 r.2.2 rfl hh).imp id fun i _ h => Option.some.inj h ▸ i
  | demob clk =>
    simp only
    cases hh : k.demobilize A clk with
    | none => exact ⟨h0, fun _ h => nomatch h⟩
    | some cs => exact ⟨hd clk cs rfl hh, fun _ h => nomatch h⟩

theorem kstep_demob (A : Arith) (k : Kalman) (clk : ClockIn) :
    kstep A (some k) (.demob clk) = (none, (k.demobilize A clk).getD []) := by
  unfold kstep
  simp only
  cases k.demobilize A clk <;> rfl

theorem kstep_timer (A : Arith) (k : Kalman) (op : KOp) (hop : ∀ m clk, op ≠ .meas m clk) :
    (kstep A (some k) op).2 = [] ∨ ∃ clk k', k.changeFrequency A cZero clk = some (k', (kstep A (some k) op).2) :=
  (kstep_inv (I := fun _ => True) (Q := fun cs => cs = [] ∨ ∃ clk k', k.changeFrequency A cZero clk = some (k', cs)) op
    (.inl rfl) (fun m clk _ _ _ e _ => absurd e (hop m clk))
    (fun clk _ _ _ _ h => ⟨.inr ⟨clk, _, update_some h⟩, trivial⟩)
    (fun clk _ _ h => (demobilize_some h).elim fun k' h => .inr ⟨clk, k', h⟩)).1

theorem krun_inv {I : Kalman → Prop} {P : KOp → Prop} {Q : List Cmd → Prop} (h0 : Q [])
    (hstep : ∀ k op, I k → P op →
      Q (kstep A (some k) op).2 ∧ ∀ k', (kstep A (some k) op).1 = some k' → I k') (ops : List KOp) :
    ∀ s : Option Kalman, (∀ k, s = some k → I k) → (∀ op ∈ ops, P op) → ∀ cs ∈ krun A s ops, Q cs := by
  induction ops with
  | nil => intro s _ _ cs h; cases h
  | cons op rest ih =>
    intro s hs hp cs h
    have hq : Q (kstep A s op).2 ∧ ∀ k', (kstep A s op).1 = some k' → I k' := by
      cases s with
      | none => exact ⟨h0, fun _ h => nomatch h⟩
      | some k => exact hstep k op (hs k rfl) (hp op (List.mem_cons_self ..))
    unfold krun at h
    rcases List.mem_cons.1 h with e | h
    · subst e; exact hq.1
    · exact ih _ hq.2 (fun o ho => hp o (List.mem_cons_of_mem _ ho)) cs h

/-- where a command can come from: `ensure_freq_init` (zero), `change_frequency` (a clamped value), or `step` of an
offset that failed the threshold test -/
def Origin (A : Arith) (c : Cfg) : Cmd → Prop
  | .freq f _ => f = cZero ∨ ∃ cur err, f = clampFrequency A cur err c.mf
  | .step d _ => ∃ off, f64Lt (f64Abs off) (durSeconds A c.thr) = false ∧ durFromSeconds (f64Neg off) = some d

/-- the only place the bound's usability is needed -/
theorem Origin.ok {c : Cfg} (hg : GoodBound c.mf) : ∀ {cmd : Cmd}, Origin A c cmd → CmdOK A c cmd
  | .freq _ _, .inl e => e ▸ freqOK_zero c hg
  | .freq _ _, .inr ⟨_, _, e⟩ => e ▸ clampFrequency_ok A _ _ _ hg
  | .step d _, ⟨_, hnot, hd⟩ => step_magnitude A c _ d hnot hd

theorem changeFrequency_origin {t : Nat} (h : k.changeFrequency A t clk = some (k', cs)) :
    (∀ c ∈ cs, Origin A k.cfg c) ∧ k'.cfg = k.cfg := by
  obtain ⟨e, ⟨_, _, rfl⟩ | ⟨cur, ok, _, rfl⟩⟩ := changeFrequency_some h
  · exact ⟨(fun _ h => nomatch h), e⟩
  · exact ⟨fun _ h => List.mem_singleton.1 h ▸ .inr ⟨_, _, rfl⟩, e⟩

theorem steer_origin (h : k.steer A clk = some (k', cs, u)) : (∀ c ∈ cs, Origin A k.cfg c) ∧ k'.cfg = k.cfg := by
  rcases steer_some h with ⟨_, _, t, hcf⟩ | ⟨hnot, _, hst⟩
  · exact changeFrequency_origin hcf
  · obtain ⟨e, d, ok, rfl, hd⟩ := stepClock_some hst
    exact ⟨fun _ h => List.mem_singleton.1 h ▸ ⟨_, hnot, hd⟩, e.cfg⟩

theorem measurement_origin (h : k.measurement A m clk = some (k', cs, u)) :
    (∀ c ∈ cs, Origin A k.cfg c) ∧ k'.cfg = k.cfg := by
  rcases measurement_some h with ⟨rfl, rfl⟩ | ⟨k4, c12, c3, hp, rfl, hs⟩
  · exact ⟨(fun _ h => nomatch h), rfl⟩
  · obtain ⟨a, e⟩ := steer_origin hs
    refine ⟨fun c hc => ?_, e.trans hp.cfg⟩
    rcases List.mem_append.1 hc with hc | hc
    · obtain ⟨ok, rfl⟩ := hp.zero c hc
      exact .inl rfl
    · exact hp.cfg ▸ a c hc

theorem kstep_origin (A : Arith) (k : Kalman) (op : KOp) :
    (∀ cmd ∈ (kstep A (some k) op).2, Origin A k.cfg cmd) ∧
      ∀ k', (kstep A (some k) op).1 = some k' → k'.cfg = k.cfg :=
  kstep_inv op (fun _ h => nomatch h) (fun _ _ _ _ _ _ h => measurement_origin h)
    (fun _ _ _ _ _ h => changeFrequency_origin (update_some h))
    (fun _ _ _ h => (demobilize_some h).elim fun _ h => (changeFrequency_origin h).1)

/-! ### a servo with `cur_frequency == None` (a fresh filter, e.g. the one a port installs when it leaves the slave
state) that is handed no Sync / Delay_Resp offset stays unarmed and programs no frequency -/

def NoFreq (cs : List Cmd) : Prop := ∀ c ∈ cs, ∀ f ok, c ≠ .freq f ok

def Quiet : KOp → Prop
  | .meas m _ => PeerOnly m
  | .upd _ => True
  | .demob _ => True

theorem changeFrequency_unarmed {t : Nat}
    (hc : k.cur = none) (h : k.changeFrequency A t clk = some (k', cs)) : k' = k ∧ cs = [] := by
  obtain ⟨_, ⟨_, e⟩ | ⟨cur, _, e, _⟩⟩ := changeFrequency_some h
  · exact e
  · rw [hc] at e
    cases e

theorem steer_unarmed (hc : k.cur = none) (h : k.steer A clk = some (k', cs, u)) : NoFreq cs ∧ k'.cur = none := by
  rcases steer_some h with ⟨_, _, t, hcf⟩ | ⟨_, _, hst⟩
  · obtain ⟨rfl, rfl⟩ := changeFrequency_unarmed hc hcf
    exact ⟨(fun _ h => nomatch h), hc⟩
  · obtain ⟨e, d, ok, rfl, _⟩ := stepClock_some hst
    exact ⟨(fun _ h _ _ he => nomatch List.mem_singleton.1 h ▸ he), e.cur.trans hc⟩

theorem kstep_unarmed (A : Arith) (k : Kalman) (op : KOp) (hc : k.cur = none) (hq : Quiet op) :
    NoFreq (kstep A (some k) op).2 ∧ ∀ k', (kstep A (some k) op).1 = some k' → k'.cur = none := by
  refine kstep_inv op (fun _ h => nomatch h) ?_ ?_ ?_
  · intro m clk k' cs u e h
    subst e
    rcases measurement_some h with ⟨rfl, rfl⟩ | ⟨k4, c12, c3, hp, rfl, hs⟩
    · exact ⟨(fun _ h => nomatch h), hc⟩
    · obtain ⟨rfl, e4⟩ := hp.peerOnly hq
      exact steer_unarmed (e4.trans hc) hs
  · intro clk k' cs u _ h
    obtain ⟨rfl, rfl⟩ := changeFrequency_unarmed hc (update_some h)
    exact ⟨(fun _ h => nomatch h), hc⟩
  · intro clk cs _ h
    obtain ⟨k', h⟩ := demobilize_some h
    cases (changeFrequency_unarmed hc h).2
    exact fun _ h => nomatch h

end Statime.Servo
