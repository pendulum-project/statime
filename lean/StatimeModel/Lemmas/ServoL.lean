import StatimeModel.Model.Servo
import StatimeModel.Lemmas.F64L
/-
The f64 side of the servo's control path (Model/Servo.lean): the clamp keeps every frequency within the bound, and a
step taken because the threshold test failed is at least the threshold. Nothing here looks inside the rounding
operations `A`.
-/
namespace Statime.Servo
open Statime

/-- `f` lies within `-bound ..= bound` as the comparison sees it -/
def Within (bound f : Nat) : Prop := f64Lt bound f = false ∧ f64Lt f (f64Neg bound) = false

def GoodBound (b : Nat) : Prop := f64IsFinite b = true ∧ f64Lt b (f64Neg b) = false

theorem f64Key_cZero : f64Key cZero = 0 := by decide

theorem goodBound_key (b : Nat) (h : GoodBound b) : f64IsNaN b = false ∧ 0 ≤ f64Key b := by
  have hn := f64_finite_not_nan b h.1
  have := (f64Lt_false_iff hn ((f64IsNaN_neg b).trans hn)).1 h.2
  rw [f64Key_neg] at this
  exact ⟨hn, by omega⟩

theorem within_of_key {b f : Nat} (hb : f64IsNaN b = false) (hf : f64IsNaN f = false)
    (h : -f64Key b ≤ f64Key f ∧ f64Key f ≤ f64Key b) : Within b f :=
  ⟨(f64Lt_false_iff hb hf).2 h.2,
   (f64Lt_false_iff hf ((f64IsNaN_neg b).trans hb)).2 (by rw [f64Key_neg]; exact h.1)⟩

/-- finite unless it is a NaN, which only the arithmetic `A` can have produced -/
theorem clampFrequency_ok (A : Arith) (cur err b : Nat) (h : GoodBound b) :
    Within b (clampFrequency A cur err b) ∧
      (f64IsNaN (clampFrequency A cur err b) = false → f64IsFinite (clampFrequency A cur err b) = true) := by
  obtain ⟨hn, hk⟩ := goodBound_key b h
  have hnn := (f64IsNaN_neg b).trans hn
  have hs : -f64Key b ≤ f64Key b := Int.le_trans (Int.neg_nonpos_of_nonneg hk) hk
  unfold clampFrequency
  generalize A.add cur err = f
  by_cases h1 : f64Lt b f = true
  · rw [if_pos h1]
    exact ⟨within_of_key hn hn ⟨hs, Int.le_refl _⟩, fun _ => h.1⟩
  · rw [if_neg h1]
    by_cases h2 : f64Lt f (f64Neg b) = true
    · rw [if_pos h2]
      exact ⟨within_of_key hn hnn (by rw [f64Key_neg]; exact ⟨Int.le_refl _, hs⟩), fun _ => (f64IsFinite_neg b).trans h.1⟩
    · rw [if_neg h2]
      have w : Within b f := ⟨Bool.eq_false_iff.2 h1, Bool.eq_false_iff.2 h2⟩
      refine ⟨w, fun hf => ?_⟩
      -- a number between `-b` and `b` is no larger in magnitude than `b`
      have a1 := (f64Lt_false_iff hn hf).1 w.1
      have a2 := (f64Lt_false_iff hf hnn).1 w.2
      have hbf := (f64IsFinite_iff_key b).1 h.1
      rw [f64Key_neg] at a2
      rw [f64IsFinite_iff_key]
      omega

def FreqOK (c : Cfg) (f : Nat) : Prop := Within c.mf f ∧ (f64IsNaN f = false → f64IsFinite f = true)

/-- at least the step threshold, both passed through `Duration::from_seconds` -/
def StepOK (A : Arith) (c : Cfg) (d : Int) : Prop :=
  ∀ dthr, durFromSeconds (durSeconds A c.thr) = some dthr → dthr ≤ (d.natAbs : Int)

def CmdOK (A : Arith) (c : Cfg) : Cmd → Prop
  | .freq f _ => FreqOK c f
  | .step d _ => StepOK A c d

theorem freqOK_zero (c : Cfg) (h : GoodBound c.mf) : FreqOK c cZero := by
  obtain ⟨hn, hk⟩ := goodBound_key _ h
  exact ⟨within_of_key hn (by decide) (by rw [f64Key_cZero]; exact ⟨Int.neg_nonpos_of_nonneg hk, hk⟩),
    fun _ => by decide⟩

theorem step_magnitude (A : Arith) (c : Cfg) (err : Nat) (d : Int)
    (hnot : f64Lt (f64Abs err) (durSeconds A c.thr) = false)
    (hd : durFromSeconds (f64Neg err) = some d) : StepOK A c d := by
  intro dthr hthr
  obtain ⟨hft, rfl⟩ := durFromSeconds_some hthr
  obtain ⟨hfn, rfl⟩ := durFromSeconds_some hd
  rw [f64IsFinite_neg] at hfn
  -- neither side is NaN, so the failed comparison means thr ≤ |err|
  have hk := (f64Lt_false_iff ((f64Abs_nan err).trans (f64_finite_not_nan _ hfn)) (f64_finite_not_nan _ hft)).1 hnot
  have m1 := f64FixedSigned_mono _ _ hk
  -- |fixed(-err)| = fixed(|-err|) = fixed(|err|)
  rw [Int.natAbs_mul, Int.natCast_mul, f64FixedSigned_natAbs, f64Abs_neg]
  exact Int.mul_le_mul_of_nonneg_right m1 (by decide)

end Statime.Servo
