import StatimeModel.Lemmas.Result
import StatimeModel.Spec.Formulas
/-
The slave side of a port (C03, C08, C09, C12, C14): what `extract_measurement` / `handle_time_measurement` return, by
shape (`Took`, `Measured`), and how every handler of Sync, Follow_Up, Delay_Resp, peer delay responses and transmit
timestamps ends (`Ends`), with the one summary of what such a call may change and emit (`Touch`).
-/
namespace Statime

/-- holds between calls: a complete peer delay exchange is consumed the moment it completes -/
def PeerIdle (p : Port) : Prop :=
  ∀ id r a b c d, p.peer ≠ .measuring id (some r) (some a) (some b) (some c) (some d)

theorem syncMeasurement_spec (send recv : Nat) (asym : Int) (md : Option Int) (raw : Int) (m : Measurement)
    (h : syncMeasurement send recv asym md = some (raw, m)) :
    Spec.rawSync send recv asym = some raw ∧
    ∃ off, m = { eventTime := recv, rawSync := some raw, offset := off } ∧
      (∀ d, md = some d → durSub raw d = off) ∧ (md = none → off = none) := by
  unfold syncMeasurement at h
  obtain ⟨d0, h1, h⟩ := Option.bind_eq_some_iff.1 h
  obtain ⟨raw', h2, h⟩ := Option.bind_eq_some_iff.1 h
  have hs : Spec.rawSync send recv asym = some raw' := by
    unfold Spec.rawSync; rw [h1, Option.bind_some, h2]
  cases md with
  | none =>
    simp only [Option.some.injEq, Prod.mk.injEq] at h
    obtain ⟨e1, e2⟩ := h
    subst e1
    exact ⟨hs, none, e2.symm, (by intro d e; cases e), fun _ => rfl⟩
  | some d =>
    simp only at h
    obtain ⟨off, h3, h4⟩ := Option.map_eq_some_iff.1 h
    simp only [Prod.mk.injEq] at h4
    obtain ⟨e1, e2⟩ := h4
    subst e1
    exact ⟨hs, some off, e2.symm, (by intro d' e; cases e; exact h3), (by intro e; cases e)⟩

theorem delayMeasurement_spec (send recv : Nat) (asym : Int) (last : Option Int) (m : Measurement)
    (h : delayMeasurement send recv asym last = some m) :
    ∃ raw, Spec.rawDelay send recv asym = some raw ∧
    ∃ dl, m = { eventTime := send, rawDelay := some raw, delay := dl } ∧
      (∀ rs, last = some rs → Spec.meanDelay rs raw = dl) ∧ (last = none → dl = none) := by
  unfold delayMeasurement at h
  obtain ⟨d0, h1, h⟩ := Option.bind_eq_some_iff.1 h
  obtain ⟨raw, h2, h⟩ := Option.bind_eq_some_iff.1 h
  refine ⟨raw, by unfold Spec.rawDelay; rw [h1, Option.bind_some, h2], ?_⟩
  cases last with
  | none =>
    simp only [Option.some.injEq] at h
    exact ⟨none, h.symm, (by intro rs e; cases e), fun _ => rfl⟩
  | some rs =>
    simp only at h
    obtain ⟨hv, h3, h4⟩ := Option.map_eq_some_iff.1 h
    exact ⟨some hv, h4.symm, (by intro rs' e; cases e; exact h3), (by intro e; cases e)⟩

theorem peerMeasurement_spec (t1 t2 t3 t4 : Nat) (m : Measurement) (h : peerMeasurement t1 t2 t3 t4 = some m) :
    ∃ v, Spec.peerDelay t1 t2 t3 t4 = some v ∧ m = { eventTime := t4, peerDelay := some v } := by
  unfold peerMeasurement at h
  obtain ⟨a, h1, h⟩ := Option.bind_eq_some_iff.1 h
  obtain ⟨b, h2, h⟩ := Option.bind_eq_some_iff.1 h
  obtain ⟨d, h3, h⟩ := Option.bind_eq_some_iff.1 h
  obtain ⟨v, h4, h5⟩ := Option.map_eq_some_iff.1 h
  refine ⟨v, ?_, h5.symm⟩
  unfold Spec.peerDelay
  rw [h1, Option.bind_some, h2, Option.bind_some, h3, Option.bind_some, h4]

def SyncSt.incomplete : SyncSt → Prop
  | .measuring _ (some _) (some _) => False
  | _ => True

def DelaySt.incomplete : DelaySt → Prop
  | .measuring _ (some _) (some _) => False
  | _ => True

/-- `extract_measurement` takes `m` out of `p`, leaving the port `q` and the events `ev` (a Faulty port whose peer
delay exchange completes recovers to Listening and demobilises its filter) -/
inductive Took (p : Port) : Port → List Out → Measurement → Prop
  | sync {remote id send recv dl last raw m} (hst : p.st = .slave remote (.measuring id (some send) (some recv)) dl last)
      (hp : PeerIdle p) (hm : syncMeasurement send recv p.cfg.delayAsymmetry p.meanDelay = some (raw, m)) :
      Took p (p.withSlave remote .empty dl (some raw)) [] m
  | delay {remote sy id send recv last m} (hst : p.st = .slave remote sy (.measuring id (some send) (some recv)) last)
      (hsy : sy.incomplete) (hp : PeerIdle p) (hm : delayMeasurement send recv p.cfg.delayAsymmetry last = some m) :
      Took p (p.withSlave remote sy .empty last) [] m
  | peer {id resp t1 t2 t3 t4 m} (hp : p.peer = .measuring id (some resp) (some t1) (some t2) (some t3) (some t4))
      (hm : peerMeasurement t1 t2 t3 t4 = some m) (hf : p.st ≠ .faulty) :
      Took p { p with peer := .post id resp } [] m
  | recover {id resp t1 t2 t3 t4 m} (hp : p.peer = .measuring id (some resp) (some t1) (some t2) (some t3) (some t4))
      (hm : peerMeasurement t1 t2 t3 t4 = some m) (hf : p.st = .faulty) :
      Took p (({ p with peer := .post id resp } : Port).setState .listening).1
        (({ p with peer := .post id resp } : Port).setState .listening).2 m

def NothingComplete (p : Port) : Prop :=
  PeerIdle p ∧ ∀ remote sy dl last, p.st = .slave remote sy dl last → sy.incomplete ∧ dl.incomplete

inductive Overflows (p : Port) : Prop
  | sync {remote id send recv dl last} (hst : p.st = .slave remote (.measuring id (some send) (some recv)) dl last)
      (hm : syncMeasurement send recv p.cfg.delayAsymmetry p.meanDelay = none)
  | delay {remote sy id send recv last} (hst : p.st = .slave remote sy (.measuring id (some send) (some recv)) last)
      (hm : delayMeasurement send recv p.cfg.delayAsymmetry last = none)
  | peer {id resp t1 t2 t3 t4} (hp : p.peer = .measuring id (some resp) (some t1) (some t2) (some t3) (some t4))
      (hm : peerMeasurement t1 t2 t3 t4 = none)

inductive Extracted (p : Port) : R (Port × Option Measurement × List Out) → Prop
  | nothing (h : NothingComplete p) : Extracted p (.ok (p, none, []))
  | took {q ev m} (h : Took p q ev m) : Extracted p (.ok (q, some m, ev))
  | overflow (h : Overflows p) : Extracted p (.error .overflow)

theorem Extracted.orOv {p : Port} {α} (x : Option α) (f : α → R (Port × Option Measurement × List Out))
    (h0 : x = none → Overflows p) (h : ∀ a, x = some a → Extracted p (f a)) : Extracted p (orOv x f) := by
  cases x with
  | none => exact .overflow (h0 rfl)
  | some a => exact h a rfl

theorem SyncSt.incomplete_of {sy : SyncSt} (h : ∀ id s r, sy ≠ .measuring id (some s) (some r)) : sy.incomplete := by
  unfold SyncSt.incomplete
  split
  · exact h _ _ _ rfl
  · trivial

theorem DelaySt.incomplete_of {dl : DelaySt} (h : ∀ id s r, dl ≠ .measuring id (some s) (some r)) : dl.incomplete := by
  unfold DelaySt.incomplete
  split
  · exact h _ _ _ rfl
  · trivial

theorem extract_cases (p : Port) : Extracted p p.extract := by
  unfold Port.extract
  split
  · rename_i hp
    refine .orOv _ _ (.peer hp) fun m hm => ?_
    split
    · exact .took (.recover hp hm ‹_›)
    · exact .took (.peer hp hm ‹_›)
  · rename_i hp
    have hp : PeerIdle p := fun id r a b c d e => hp id r a b c d e
    unfold Port.extractSlave
    split
    · rename_i hst
      split
      · exact .orOv _ _ (.sync hst) fun rm hm => .took (.sync hst hp hm)
      · rename_i hsy
        have hsy := SyncSt.incomplete_of fun id s r e => hsy id s r e
        split
        · exact .orOv _ _ (.delay hst) fun m hm => .took (.delay hst hsy hp hm)
        · rename_i hdl
          refine .nothing ⟨hp, fun remote sy dl last e => ?_⟩
          rw [hst] at e; cases e
          exact ⟨hsy, DelaySt.incomplete_of fun id s r e => hdl id s r e⟩
    · rename_i hns
      exact .nothing ⟨hp, fun remote sy dl last e => (hns remote sy dl last e).elim⟩

/-- `Filter::measurement` hands back the mean delay the filter now works with. `Port.timeMeasurement` spells this
`match` out inline; `timeMeasurement_cases` goes through because the two texts are definitionally equal. -/
def Port.noteDelay (q : Port) (m : Measurement) : Port :=
  match filterMeanDelay m with
  | some md => { q with meanDelay := some md }
  | none => q

theorem Port.noteDelay_eq (q : Port) (m : Measurement) :
    q.noteDelay m = { q with meanDelay := (q.noteDelay m).meanDelay } := by
  unfold Port.noteDelay; split <;> rfl

theorem Port.noteDelay_st (q : Port) (m : Measurement) : (q.noteDelay m).st = q.st := by rw [Port.noteDelay_eq]

inductive Measured (p : Port) : R (Port × List Out) → Prop
  | nothing (h : NothingComplete p) : Measured p (.ok (p, []))
  | took {q ev m} (h : Took p q ev m) : Measured p (.ok (q.noteDelay m, ev ++ [.measurement m]))
  | overflow (h : Overflows p) : Measured p (.error .overflow)

theorem timeMeasurement_cases (p : Port) : Measured p p.timeMeasurement := by
  unfold Port.timeMeasurement
  have h := extract_cases p
  generalize p.extract = x at h
  cases h with
  | nothing h => exact .nothing h
  | took h => exact .took h
  | overflow h => exact .overflow h

def Port.seqs (p : Port) : Nat × Nat × Nat × Nat := (p.annSeq, p.syncSeq, p.delaySeq, p.pdelaySeq)

/-- how a slave-side handler, or the sending of a frame, may change the state `st` of the port to `st'` -/
inductive StRel (st st' : PState) : Prop
  | same (h : st' = st)
  /-- a Slave port stores a timestamp or hands over a measurement: another Slave sub-state -/
  | slave (h : st.isSlave = true) (h' : st'.isSlave = true)
  /-- a second peer delay responder was heard -/
  | faulty (h : st' = .faulty)
  /-- the peer delay exchange of a Faulty port completed -/
  | recovered (h : st = .faulty) (h' : st' = .listening)

theorem StRel.noNewSlave {st st' : PState} (h : StRel st st') (hs : st'.isSlave = true) : st.isSlave = true := by
  cases h with
  | same h => rw [← h]; exact hs
  | slave h => exact h
  | faulty h => rw [h] at hs; cases hs
  | recovered _ h' => rw [h'] at hs; cases hs

/-- `rest` mentions `p'` only in the three fields it sets: every other field of `p'` is that of `p`, and nothing is
said of these three. `outs`: the servo is fed by a Slave port only (the role discipline of C08); a peer delay
measurement may come from a port in any state. -/
structure Touch (p p' : Port) (outs : List Out) : Prop where
  rest : p' = { p with st := p'.st, peer := p'.peer, meanDelay := p'.meanDelay }
  st : StRel p.st p'.st
  outs : ∀ o ∈ outs, o = .demobilize ∨
    ∃ m, o = .measurement m ∧ ((m.rawSync.isSome ∨ m.rawDelay.isSome) → p.st.isSlave = true)

theorem Touch.refl (p : Port) : Touch p p [] := ⟨rfl, .same rfl, (fun _ h => nomatch h)⟩

theorem setState_fst (p : Port) (st : PState) : (p.setState st).1 = { p with st := st } := rfl

theorem setState_snd (p : Port) (st : PState) :
    (p.setState st).2 = if p.st.isSlave || p.st = .faulty || st = .faulty then [.demobilize] else [] := rfl

theorem setState_faulty (p : Port) : p.setState .faulty = ({ p with st := .faulty }, [.demobilize]) :=
  Prod.ext rfl (by rw [setState_snd, decide_eq_true (rfl : PState.faulty = .faulty), Bool.or_true, if_pos rfl])

theorem setState_snd_of_faulty {p : Port} (hf : p.st = .faulty) (st : PState) : (p.setState st).2 = [.demobilize] := by
  rw [setState_snd, hf]; rfl

theorem mem_setState {p : Port} {st : PState} {o : Out} (h : o ∈ (p.setState st).2) : o = .demobilize := by
  rw [setState_snd] at h
  split at h
  · exact List.mem_singleton.1 h
  · cases h

inductive Upd (p : Port) : Port → Prop
  | slave {remote sy dl last} (h : p.st = .slave remote sy dl last) (sy' : SyncSt) (dl' : DelaySt) (last' : Option Int) :
      Upd p (p.withSlave remote sy' dl' last')
  | peer (ps : PeerSt) : Upd p { p with peer := ps }

theorem Upd.touch {p q p' : Port} {outs : List Out} (hq : Upd p q) (h : Touch q p' outs) : Touch p p' outs := by
  cases hq with
  | peer => exact ⟨by rw [h.rest], h.st, h.outs⟩
  | slave hst =>
    have hs : p.st.isSlave = true := by rw [hst]; rfl
    refine ⟨by rw [h.rest]; rfl, ?_, fun o ho => ?_⟩
    · cases h.st with
      | same e => exact .slave hs (by rw [e]; rfl)
      | slave _ e => exact .slave hs e
      | faulty e => exact .faulty e
      | recovered e => cases e
    · rcases h.outs o ho with e | ⟨m, e, _⟩
      · exact .inl e
      · exact .inr ⟨m, e, fun _ => hs⟩

theorem Took.touch {p q : Port} {ev : List Out} {m : Measurement} (h : Took p q ev m) :
    Touch p (q.noteDelay m) (ev ++ [.measurement m]) := by
  have note : ∀ {q : Port}, Touch p q ev → ((m.rawSync.isSome ∨ m.rawDelay.isSome) → p.st.isSlave = true) →
      Touch p (q.noteDelay m) (ev ++ [.measurement m]) := by
    intro q hq c
    have e := q.noteDelay_eq m
    refine ⟨by rw [e, hq.rest], by have := hq.st; rw [e]; exact this, fun o ho => ?_⟩
    rcases List.mem_append.1 ho with h1 | h1
    · exact hq.outs o h1
    · exact .inr ⟨m, List.mem_singleton.1 h1, c⟩
  cases h with
  | sync hst _ hm => exact note ((Upd.slave hst _ _ _).touch (.refl _)) fun _ => by rw [hst]; rfl
  | delay hst _ _ hm => exact note ((Upd.slave hst _ _ _).touch (.refl _)) fun _ => by rw [hst]; rfl
  | peer hp hm hf =>
    obtain ⟨v, _, rfl⟩ := peerMeasurement_spec _ _ _ _ _ hm
    exact note ((Upd.peer _).touch (.refl _)) fun c => by simp at c
  | recover hp hm hf =>
    obtain ⟨v, _, rfl⟩ := peerMeasurement_spec _ _ _ _ _ hm
    exact note ⟨rfl, .recovered hf rfl, fun _ ho => .inl (mem_setState ho)⟩ fun c => by simp at c

theorem timeMeasurement_touch {p p' : Port} {outs : List Out} (h : p.timeMeasurement = .ok (p', outs)) :
    Touch p p' outs := by
  have hm := timeMeasurement_cases p
  rw [h] at hm
  cases hm with
  | nothing => exact .refl p
  | took ht => exact ht.touch

/-- how a slave-side handler call on `p` can end: nothing happens; an updated port `q` (one that `Q` admits) is
stored, or stored and handed to `handle_time_measurement`; an overflow, for the reason `E`; or the port is made
Faulty, for the reason `F` -/
inductive Ends (p : Port) (Q : Port → Prop) (E F : Prop) : R (Port × List Out) → Prop
  | stay : Ends p Q E F (.ok (p, []))
  | store {q : Port} (hu : Upd p q) (hq : Q q) : Ends p Q E F (.ok (q, []))
  | measure {q : Port} (hu : Upd p q) (hq : Q q) : Ends p Q E F q.timeMeasurement
  | ov (e : E) : Ends p Q E F (.error .overflow)
  | fault (f : F) : Ends p Q E F (.ok (p.setState .faulty))

theorem Ends.orOv {p : Port} {Q : Port → Prop} {E F : Prop} {α : Type} {x : Option α} {f : α → R (Port × List Out)}
    (hn : x = none → E) (hs : ∀ a, x = some a → Ends p Q E F (f a)) : Ends p Q E F (orOv x f) := by
  cases x with
  | none => exact .ov (hn rfl)
  | some a => exact hs a rfl

theorem Ends.touch {p p' : Port} {Q : Port → Prop} {E F : Prop} {x : R (Port × List Out)} {outs : List Out}
    (hx : Ends p Q E F x) (h : x = .ok (p', outs)) : Touch p p' outs := by
  cases hx with
  | stay => cases h; exact .refl p
  | store hu => cases h; exact hu.touch (.refl _)
  | measure hu => exact hu.touch (timeMeasurement_touch h)
  | ov => cases h
  | fault => cases h; exact ⟨rfl, .faulty rfl, fun _ ho => .inl (mem_setState ho)⟩

/-- what a Sync of the parent stores: its corrected receive time under its sequence id, next to the send time already
known for that id, if any, or to its own origin timestamp (one-step) -/
inductive SyncStored (p : Port) (h : Header) (o : WireTs) (ts : Nat) : Port → Prop
  | mk {remote sy dl last c send} (hst : p.st = .slave remote sy dl last) (hsrc : remote = h.src)
      (hc : Spec.syncRecv h.correction ts = some c)
      (hsend : send = none ∨ (∃ recv, sy = .measuring h.seq send recv) ∨
        (h.flags.twoStep = false ∧ send.isSome ∧ Spec.oneStepSend o = send)) :
      SyncStored p h o ts (p.withSlave remote (.measuring h.seq send (some c)) dl last)

theorem handleSync_ends (p : Port) (h : Header) (o : WireTs) (ts : Nat) :
    Ends p (SyncStored p h o ts) (Spec.syncRecv h.correction ts = none ∨ Spec.oneStepSend o = none) False
      (p.handleSync h o ts) := by
  unfold Port.handleSync
  split
  · rename_i remote sy dl last hst
    by_cases hsrc : remote ≠ h.src
    · rw [if_pos hsrc]; exact .stay
    · rw [if_neg hsrc]
      have hsrc := Classical.not_not.1 hsrc
      refine Ends.orOv Or.inl fun c hc => ?_
      unfold Port.syncStore
      by_cases h2 : h.flags.twoStep = true
      · rw [if_pos h2]
        cases sy with
        | empty => exact .store (.slave hst _ _ _) (.mk hst hsrc hc (.inl rfl))
        | measuring id send recv =>
          dsimp only
          by_cases hid : id = h.seq
          · rw [if_pos hid]; subst hid
            cases recv with
            | some _ => exact .stay
            | none => exact .measure (.slave hst _ _ _) (.mk hst hsrc hc (.inr (.inl ⟨_, rfl⟩)))
          · rw [if_neg hid]; exact .store (.slave hst _ _ _) (.mk hst hsrc hc (.inl rfl))
      · rw [if_neg h2]
        -- a one-step Sync brings its own send time: the two branches that use it end alike, shown once
        have one : Ends p (SyncStored p h o ts) (Spec.syncRecv h.correction ts = none ∨ Spec.oneStepSend o = none) False
            (Statime.orOv (wireToTime o) fun send =>
              (p.withSlave remote (.measuring h.seq (some send) (some c)) dl last).timeMeasurement) :=
          Ends.orOv Or.inr fun s hs =>
            .measure (.slave hst _ _ _) (.mk hst hsrc hc (.inr (.inr ⟨Bool.eq_false_iff.2 h2, rfl, hs⟩)))
        cases sy with
        | empty => exact one
        | measuring id send recv =>
          dsimp only
          by_cases hid : id = h.seq
          · rw [if_pos hid]; exact .stay
          · rw [if_neg hid]; exact one
  · exact .stay

/-! the handlers compute t1' and t4' in two checked steps; `orOv_bind` joins them into the formulas of `Spec/Formulas.lean` -/

theorem Spec.followUpSend_eq (c : Int) (o : WireTs) :
    Spec.followUpSend c o = (wireToTime o).bind fun t0 => timeAddDur t0 (tivToDur c) := rfl

theorem Spec.delayRecv_eq (c : Int) (rx : WireTs) :
    Spec.delayRecv c rx = (wireToTime rx).bind fun t0 => timeSubDur t0 (tivToDur c) := rfl

inductive FollowUpStored (p : Port) (h : Header) (o : WireTs) : Port → Prop
  | mk {remote sy dl last send recv} (hst : p.st = .slave remote sy dl last) (hsrc : remote = h.src)
      (hs : Spec.followUpSend h.correction o = some send) (hrecv : recv = none ∨ sy = .measuring h.seq none recv) :
      FollowUpStored p h o (p.withSlave remote (.measuring h.seq (some send) recv) dl last)

theorem handleFollowUp_ends (p : Port) (h : Header) (o : WireTs) :
    Ends p (FollowUpStored p h o) (Spec.followUpSend h.correction o = none) False (p.handleFollowUp h o) := by
  unfold Port.handleFollowUp
  split
  · rename_i remote sy dl last hst
    by_cases hsrc : remote ≠ h.src
    · rw [if_pos hsrc]; exact .stay
    · rw [if_neg hsrc, orOv_bind, ← Spec.followUpSend_eq]
      have hsrc := Classical.not_not.1 hsrc
      refine Ends.orOv (fun e => e) fun send hs => ?_
      unfold Port.followUpStore
      cases sy with
      | empty => exact .measure (.slave hst _ _ _) (.mk hst hsrc hs (.inl rfl))
      | measuring id s recv =>
        dsimp only
        by_cases hid : id = h.seq
        · rw [if_pos hid]; subst hid
          cases s with
          | some _ => exact .stay
          | none => exact .measure (.slave hst _ _ _) (.mk hst hsrc hs (.inr rfl))
        · rw [if_neg hid]; exact .measure (.slave hst _ _ _) (.mk hst hsrc hs (.inl rfl))
  · exact .stay

inductive DelayRespStored (p : Port) (h : Header) (rx : WireTs) (req : PortId) : Port → Prop
  | mk {remote sy send last r} (hst : p.st = .slave remote sy (.measuring h.seq send none) last) (hreq : p.id = req)
      (hsrc : remote = h.src) (hr : Spec.delayRecv h.correction rx = some r) :
      DelayRespStored p h rx req (p.withSlave remote sy (.measuring h.seq send (some r)) last)

theorem handleDelayResp_ends (p : Port) (h : Header) (rx : WireTs) (req : PortId) :
    Ends p (DelayRespStored p h rx req) (Spec.delayRecv h.correction rx = none) False (p.handleDelayResp h rx req) := by
  unfold Port.handleDelayResp
  split
  · rename_i remote sy dl last hst
    by_cases hsrc : p.id ≠ req ∨ remote ≠ h.src
    · rw [if_pos hsrc]; exact .stay
    · rw [if_neg hsrc]
      cases dl with
      | empty => exact .stay
      | measuring id send recv =>
        dsimp only
        by_cases hid : id = h.seq
        · rw [if_pos hid]; subst hid
          cases recv with
          | some _ => exact .stay
          | none =>
            rw [orOv_bind, ← Spec.delayRecv_eq]
            exact Ends.orOv (fun e => e) fun r hr =>
              .measure (.slave hst _ _ _) (.mk hst (Classical.not_not.1 fun e => hsrc (.inl e))
                (Classical.not_not.1 fun e => hsrc (.inr e)) hr)
        · rw [if_neg hid]; exact .stay
  · exact .stay

inductive DelayTsStored (p : Port) (tsId ts : Nat) : Port → Prop
  | mk {remote sy recv last} (hst : p.st = .slave remote sy (.measuring tsId none recv) last) :
      DelayTsStored p tsId ts (p.withSlave remote sy (.measuring tsId (some ts) recv) last)

theorem handleDelayTs_ends (p : Port) (tsId ts : Nat) :
    Ends p (DelayTsStored p tsId ts) False False (p.handleDelayTs tsId ts) := by
  unfold Port.handleDelayTs
  split
  · rename_i remote sy id send recv last hst
    by_cases hid : id = tsId
    · rw [if_pos hid]; subst hid
      cases send with
      | some _ => exact .stay
      | none => exact .measure (.slave hst _ _ _) (.mk hst)
    · rw [if_neg hid]; exact .stay
  · exact .stay

/-! `hr`: the message is not from the parent; on a port that is not Slave that holds of every message. -/

theorem handleSync_other (p : Port) (h : Header) (o : WireTs) (ts : Nat)
    (hr : ∀ remote sy d l, p.st = .slave remote sy d l → remote ≠ h.src) : p.handleSync h o ts = .ok (p, []) := by
  unfold Port.handleSync
  cases hst : p.st with
  | slave remote sy d l => simp only; rw [if_pos (hr remote sy d l hst)]
  | _ => rfl

theorem handleFollowUp_other (p : Port) (h : Header) (o : WireTs)
    (hr : ∀ remote sy d l, p.st = .slave remote sy d l → remote ≠ h.src) : p.handleFollowUp h o = .ok (p, []) := by
  unfold Port.handleFollowUp
  cases hst : p.st with
  | slave remote sy d l => simp only; rw [if_pos (hr remote sy d l hst)]
  | _ => rfl

theorem handleDelayResp_other (p : Port) (h : Header) (rx : WireTs) (req : PortId)
    (hr : ∀ remote sy d l, p.st = .slave remote sy d l → (p.id ≠ req ∨ remote ≠ h.src)) :
    p.handleDelayResp h rx req = .ok (p, []) := by
  unfold Port.handleDelayResp
  cases hst : p.st with
  | slave remote sy d l => simp only; rw [if_pos (hr remote sy d l hst)]
  | _ => rfl

theorem handleDelayTs_notSlave {p : Port} (hs : p.st.isSlave = false) (tsId ts : Nat) :
    p.handleDelayTs tsId ts = .ok (p, []) := by
  unfold Port.handleDelayTs
  split
  · next hst => rw [hst] at hs; cases hs
  · rfl

inductive PdelayTsStored (p : Port) (tsId ts : Nat) : Port → Prop
  | mk {resp b c d} (hp : p.peer = .measuring tsId resp none b c d) :
      PdelayTsStored p tsId ts { p with peer := .measuring tsId resp (some ts) b c d }

theorem handlePdelayTs_ends (p : Port) (tsId ts : Nat) :
    Ends p (PdelayTsStored p tsId ts) False False (p.handlePdelayTs tsId ts) := by
  unfold Port.handlePdelayTs
  split
  · rename_i id resp a b c d hpeer
    by_cases hid : id = tsId
    · rw [if_pos hid]; subst hid
      cases a with
      | some _ => exact .stay
      | none => exact .measure (.peer _) (.mk hpeer)
    · rw [if_neg hid]; exact .stay
  · exact .stay

/-- the receive time of a Pdelay_Resp is corrected as that of a Sync is (`Spec.syncRecv`: minus the correction field) -/
inductive PdelayRespStored (p : Port) (h : Header) (rx : WireTs) (recvTime : Nat) : Port → Prop
  | mk {id resp a b c rr rq} (hp : p.peer = .measuring id resp a b c none)
      (hcl : p.peer.classify h.seq h.src = some false) (hrr : Spec.syncRecv h.correction recvTime = some rr)
      (hrq : wireToTime rx = some rq) :
      PdelayRespStored p h rx recvTime
        { p with peer := .measuring id (some h.src) a (some rq) (if !h.flags.twoStep then some rq else c) (some rr) }

/-- `F`: a second responder answered; only this handler and its follow-up twin make a port Faulty -/
theorem handlePdelayResp_ends (p : Port) (h : Header) (rx : WireTs) (req : PortId) (recvTime : Nat) :
    Ends p (PdelayRespStored p h rx recvTime) (Spec.syncRecv h.correction recvTime = none ∨ wireToTime rx = none)
      (p.peer.classify h.seq h.src = some true) (p.handlePdelayResp h rx req recvTime) := by
  unfold Port.handlePdelayResp
  by_cases hreq : p.id ≠ req
  · rw [if_pos hreq]; exact .stay
  · rw [if_neg hreq]
    cases hcl : p.peer.classify h.seq h.src with
    | none => exact .stay
    | some b =>
      cases b with
      | true => exact .fault rfl
      | false =>
        dsimp only
        split
        · rename_i id resp a b c d hpeer
          cases d with
          | some _ => exact .stay
          | none =>
            exact Ends.orOv Or.inl fun rr hrr => Ends.orOv Or.inr fun rq hrq =>
              .measure (.peer _) (.mk hpeer hcl hrr hrq)
        · exact .stay

theorem handlePdelayResp_fault {p : Port} {h : Header} (rx : WireTs) (recvTime : Nat)
    (hcl : p.peer.classify h.seq h.src = some true) : p.handlePdelayResp h rx p.id recvTime = .ok (p.setState .faulty) := by
  unfold Port.handlePdelayResp; rw [if_neg (not_not_intro rfl), hcl]

inductive PdelayRespFuStored (p : Port) (h : Header) (o : WireTs) : Port → Prop
  | mk {id resp a b d s} (hp : p.peer = .measuring id resp a b none d) (hcl : p.peer.classify h.seq h.src = some false)
      (hs : Spec.followUpSend h.correction o = some s) :
      PdelayRespFuStored p h o { p with peer := .measuring id (some h.src) a b (some s) d }

theorem handlePdelayRespFu_ends (p : Port) (h : Header) (o : WireTs) (req : PortId) :
    Ends p (PdelayRespFuStored p h o) (Spec.followUpSend h.correction o = none) (p.peer.classify h.seq h.src = some true)
      (p.handlePdelayRespFu h o req) := by
  unfold Port.handlePdelayRespFu
  by_cases hreq : p.id ≠ req
  · rw [if_pos hreq]; exact .stay
  · rw [if_neg hreq]
    cases hcl : p.peer.classify h.seq h.src with
    | none => exact .stay
    | some b =>
      cases b with
      | true => exact .fault rfl
      | false =>
        dsimp only
        split
        · rename_i id resp a b c d hpeer
          cases c with
          | some _ => exact .stay
          | none =>
            rw [orOv_bind, ← Spec.followUpSend_eq]
            exact Ends.orOv (fun e => e) fun s hs => .measure (.peer _) (.mk hpeer hcl hs)
        · exact .stay

theorem handlePdelayRespFu_fault {p : Port} {h : Header} (o : WireTs)
    (hcl : p.peer.classify h.seq h.src = some true) : p.handlePdelayRespFu h o p.id = .ok (p.setState .faulty) := by
  unfold Port.handlePdelayRespFu; rw [if_neg (not_not_intro rfl), hcl]

end Statime
