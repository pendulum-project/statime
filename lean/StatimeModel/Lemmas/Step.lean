import StatimeModel.Model.Instance
import StatimeModel.Lemmas.Result
/-
Ports by number (`portAt`, `setPort`, a port added at the end), and one host call as a relation:
`Step i op r` lists every way `Inst.step i op` can return `.ok r`, and
`PortCall` the port-level handler behind each call addressed to a port. Proofs about a step go by cases on
these (`step_cases`, `portHandler_call`) and do not unfold `Inst.step`, `Inst.portHandler`, `Inst.withPort`
or `Inst.other` again. The same call seen from one port afterwards is in Lemmas/StepAt.lean.
-/
namespace Statime

theorem mem_tag {k : Nat} {outs : List Out} {x : Nat × Out} : x ∈ tag k outs ↔ x.1 = k ∧ x.2 ∈ outs := by
  unfold tag
  rw [List.mem_map]
  constructor
  · rintro ⟨o, ho, rfl⟩
    exact ⟨rfl, ho⟩
  · rintro ⟨rfl, ho⟩
    exact ⟨x.2, ho, rfl⟩

theorem portAt_succ (ports : List Port) (j : Nat) : portAt ports (j + 1) = ports[j]? :=
  if_neg (Nat.succ_ne_zero j)

theorem setPort_length (ports : List Port) (k : Nat) (p : Port) : (setPort ports k p).length = ports.length :=
  List.length_set

theorem setPort_cases {ports : List Port} {k : Nat} {p : Port} (hk : portAt ports k = some p) (p' : Port) (j : Nat) :
    (j + 1 = k ∧ ports[j]? = some p ∧ (setPort ports k p')[j]? = some p') ∨
    (j + 1 ≠ k ∧ (setPort ports k p')[j]? = ports[j]?) := by
  cases k with
  | zero => cases hk
  | succ k =>
    rw [portAt_succ] at hk
    unfold setPort
    rw [Nat.add_sub_cancel]
    by_cases hj : j = k
    · subst hj
      exact .inl ⟨rfl, hk, List.getElem?_set_self (List.getElem?_eq_some_iff.1 hk).1⟩
    · exact .inr ⟨fun e => hj (Nat.succ.inj e), List.getElem?_set_ne fun e => hj e.symm⟩

theorem setPort_same {ports : List Port} {k : Nat} {p : Port} (hk : portAt ports k = some p) : setPort ports k p = ports := by
  refine List.ext_getElem? fun j => ?_
  rcases setPort_cases hk p j with ⟨_, h0, h⟩ | ⟨_, h⟩
  · rw [h, h0]
  · exact h

theorem portAt_setPort {ports : List Port} {k : Nat} {p : Port} (hk : portAt ports k = some p) (p' : Port) (j : Nat) :
    portAt (setPort ports k p') j = if j = k then some p' else portAt ports j := by
  cases j with
  | zero => rw [if_neg (by rintro rfl; cases hk)]; rfl
  | succ j =>
    rw [portAt_succ, portAt_succ]
    rcases setPort_cases hk p' j with ⟨hj, _, h⟩ | ⟨hj, h⟩
    · rw [if_pos hj, h]
    · rw [if_neg hj, h]

theorem getElem?_same_length {α : Type} {a b : List α} (h : b.length = a.length) {j : Nat} {x : α} (hx : a[j]? = some x) :
    ∃ y, b[j]? = some y :=
  ⟨b[j]'(h ▸ (List.getElem?_eq_some_iff.1 hx).1), List.getElem?_eq_getElem _⟩

theorem getElem?_concat_some {α : Type} {l : List α} {x y : α} {j : Nat} (h : (l ++ [x])[j]? = some y) :
    l[j]? = some y ∨ (j = l.length ∧ y = x) := by
  have hlt := (List.getElem?_eq_some_iff.1 h).1
  rw [List.length_append, List.length_singleton] at hlt
  rcases Nat.lt_succ_iff_lt_or_eq.1 hlt with hj | hj
  · exact .inl ((List.getElem?_append_left hj).symm.trans h)
  · subst hj
    rw [List.getElem?_concat_length] at h
    exact .inr ⟨rfl, (Option.some.inj h).symm⟩

theorem Port.new_spec (cfg : PortCfg) (id : PortId) (pn : Port) (h : Port.new cfg id = .ok pn) :
    pn.id = id ∧ pn.fml.own = pn.id ∧ pn.st = .listening := by
  unfold Port.new at h
  obtain ⟨ai, _, h2⟩ := orOv_ok _ _ _ h
  rw [Except.ok.injEq] at h2
  rw [← h2]
  exact ⟨rfl, rfl, rfl⟩

theorem Port.new_st {cfg : PortCfg} {id : PortId} {pn : Port} (h : Port.new cfg id = .ok pn) : pn.st = .listening :=
  (Port.new_spec cfg id pn h).2.2

/-- the port number a host call is addressed to -/
def Op.port? : Op → Option Nat
  | .gen k _ | .evt k _ _ | .tmrAnnounce k _ _ | .tmr k _ | .txts k _ _ => some k
  | .bmca _ | .setSlaveOnly _ | .setQuality _ | .addPort _ => none

theorem portHandler_port? {i : Inst} {op : Op} {k : Nat} {f : Port → R (Port × InstState × List Out × Nat)}
    (h : i.portHandler op = some (k, f)) : op.port? = some k := by
  have hk : (i.portHandler op).map (·.1) = some k := congrArg (Option.map (·.1)) h
  cases op with
  | tmr kk t =>
    cases t with
    | filter => cases hk
    | _ => exact hk
  | gen | evt | tmrAnnounce | txts => exact hk
  | bmca | setSlaveOnly | setQuality | addPort => cases hk

/-- the handler that host call `op` runs on port number `k` (state `p`), with what `Inst.portHandler` makes of
its result: new port, new data sets, output, length of the forwarding queue left -/
inductive PortCall (s : InstState) (k : Nat) (p : Port) : Op → Port × InstState × List Out × Nat → Prop
  | gen {data p' s' o} : p.handleGeneralReceive s data = .ok (p', s', o) → PortCall s k p (.gen k data) (p', s', o, 0)
  | evt {data ts p' s' o} : p.handleEventReceive s data ts = .ok (p', s', o) → PortCall s k p (.evt k data ts) (p', s', o, 0)
  | fwd {loose q p' o q'} : p.sendAnnounce s q loose = .ok (p', o, q') → PortCall s k p (.tmrAnnounce k loose q) (p', s, o, q'.length)
  | announce {p' o q'} : p.sendAnnounce s [] true = .ok (p', o, q') → PortCall s k p (.tmr k .announce) (p', s, o, 0)
  | sync {p' o} : p.sendSync s = .ok (p', o) → PortCall s k p (.tmr k .sync) (p', s, o, 0)
  | delay {p' o} : p.sendDelayRequest s = .ok (p', o) → PortCall s k p (.tmr k .delay) (p', s, o, 0)
  | receipt : PortCall s k p (.tmr k .receipt) ((p.handleReceiptTimer s).1, s, (p.handleReceiptTimer s).2, 0)
  | txts {ctx ts p' o} : p.handleSendTimestamp s ctx ts = .ok (p', o) → PortCall s k p (.txts k ctx ts) (p', s, o, 0)

theorem portHandler_call {i : Inst} {op : Op} {k : Nat} {f : Port → R (Port × InstState × List Out × Nat)}
    (hop : i.portHandler op = some (k, f)) {p : Port} {r : Port × InstState × List Out × Nat} (h : f p = .ok r) :
    PortCall i.st k p op r := by
  -- on a constructor `Inst.portHandler` reduces to `some (kk, fun p => …)` or `none`: `cases hop` identifies `k`, `f`
  cases op with
  | gen kk data =>
    cases hop
    obtain ⟨⟨p', s', o⟩, hx, rfl⟩ := map_ok _ _ _ h
    exact .gen hx
  | evt kk data ts =>
    cases hop
    obtain ⟨⟨p', s', o⟩, hx, rfl⟩ := map_ok _ _ _ h
    exact .evt hx
  | tmrAnnounce kk loose q =>
    cases hop
    obtain ⟨⟨p', o, q'⟩, hx, rfl⟩ := map_ok _ _ _ h
    exact .fwd hx
  | tmr kk t =>
    cases t with
    | announce =>
      cases hop
      obtain ⟨⟨p', o, q'⟩, hx, rfl⟩ := map_ok _ _ _ h
      exact .announce hx
    | sync =>
      cases hop
      obtain ⟨⟨p', o⟩, hx, rfl⟩ := map_ok _ _ _ h
      exact .sync hx
    | delay =>
      cases hop
      obtain ⟨⟨p', o⟩, hx, rfl⟩ := map_ok _ _ _ h
      exact .delay hx
    | receipt =>
      cases hop
      cases h
      exact .receipt
    | filter => cases hop
  | txts kk ctx ts =>
    cases hop
    obtain ⟨⟨p', o⟩, hx, rfl⟩ := map_ok _ _ _ h
    exact .txts hx
  | bmca _ | setSlaveOnly _ | setQuality _ | addPort _ => cases hop

theorem PortCall.port? {s : InstState} {k : Nat} {p : Port} {op : Op} {r : Port × InstState × List Out × Nat}
    (h : PortCall s k p op r) : op.port? = some k := by
  cases h with
  | _ => rfl

inductive Step (i : Inst) : Op → Inst × Obs × Nat → Prop
  | port {op k p p' s' o n} : portAt i.ports k = some p → PortCall i.st k p op (p', s', o, n) →
      Step i op ({ i with st := s', ports := setPort i.ports k p' }, tag k o, n)
  /-- addressed to a port number that does not exist, or the filter timer: nothing happens -/
  | idle {op k} : op.port? = some k → portAt i.ports k = none ∨ op = .tmr k .filter → Step i op (i, [], 0)
  | addPort {cfg pn} : Port.new cfg ⟨i.st.dflt.clockIdentity, i.st.dflt.numberPorts + 1⟩ = .ok pn →
      Step i (.addPort cfg) (i.withNewPort cfg pn)
  | setSlaveOnly {b} : Step i (.setSlaveOnly b) (i.setSlaveOnly b, [], 0)
  | setQuality {q} : Step i (.setQuality q) (i.setQuality q, [], 0)
  | bmca {order i' obs} : i.bmca order = .ok (i', obs) → Step i (.bmca order) (i', obs, 0)

theorem step_cases {i : Inst} {op : Op} {r : Inst × Obs × Nat} (h : i.step op = .ok r) : Step i op r := by
  unfold Inst.step at h
  split at h
  · next k f hph =>
    unfold Inst.withPort at h
    split at h
    · next hk =>
      obtain rfl := Except.ok.inj h
      exact .idle (portHandler_port? hph) (.inl hk)
    · next p hk =>
      split at h
      · cases h
      · next p' s' o n hx =>
        obtain rfl := Except.ok.inj h
        exact .port hk (portHandler_call hph hx)
  · next hph =>
    cases op with
    | bmca order =>
      have h : (i.bmca order).map (fun r => (r.1, r.2, 0)) = .ok r := h
      obtain ⟨⟨i', obs⟩, hx, rfl⟩ := map_ok _ _ _ h
      exact .bmca hx
    | setSlaveOnly b => obtain rfl := Except.ok.inj h; exact .setSlaveOnly
    | setQuality q => obtain rfl := Except.ok.inj h; exact .setQuality
    | addPort cfg =>
      have h : i.addPort cfg = .ok r := h
      unfold Inst.addPort at h
      obtain ⟨pn, hn, rfl⟩ := map_ok _ _ _ h
      exact .addPort hn
    | tmr k t =>
      cases t with
      | filter =>
        obtain rfl := Except.ok.inj h
        exact .idle rfl (.inr rfl)
      | announce | sync | delay | receipt => cases hph
    | gen _ _ | evt _ _ _ | tmrAnnounce _ _ _ | txts _ _ _ => cases hph

theorem step_bmca {i : Inst} {order : List Nat} {r : Inst × Obs × Nat} (h : i.step (.bmca order) = .ok r) :
    ∃ i' obs, i.bmca order = .ok (i', obs) ∧ r = (i', obs, 0) := by
  have h : (i.bmca order).map (fun r => (r.1, r.2, 0)) = .ok r := h
  obtain ⟨⟨i', obs⟩, hx, rfl⟩ := map_ok _ _ _ h
  exact ⟨i', obs, hx, rfl⟩

end Statime
