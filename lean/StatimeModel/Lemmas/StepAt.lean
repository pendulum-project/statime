import StatimeModel.Lemmas.BmcaRun
/-
One host call seen from one port afterwards (`StepAt`, `step_at`): what a proof about every port of the instance
goes by, so that the places of the ports (`setPort_cases`, `getElem?_concat_some`) are sorted out once.
-/
namespace Statime

/-- one host call, seen from the port `p'` that stands at place `j` afterwards -/
inductive StepAt (i : Inst) (op : Op) (i' : Inst) (obs : Obs) (j : Nat) (p' : Port) : Prop
  /-- the call is not for this port, or is its filter timer: the port stands as it stood; what it is handed (a new
  port's timer, on an instance that miscounts its ports) is neither a frame nor a measurement -/
  | same (hp : i.ports[j]? = some p') (hop : op.port? = some (j + 1) → op = .tmr (j + 1) .filter)
      (hobs : ∀ o, (j + 1, o) ∈ obs → o.plain)
  | call {p s' o n} (hp : i.ports[j]? = some p) (hc : PortCall i.st (j + 1) p op (p', s', o, n)) (hst : i'.st = s')
      (hobs : obs = tag (j + 1) o)
  | bmca {order} (hop : op = .bmca order) (hx : i.bmca order = .ok (i', obs))
  | new {cfg} (hop : op = .addPort cfg)
      (hnew : Port.new cfg ⟨i.st.dflt.clockIdentity, i.st.dflt.numberPorts + 1⟩ = .ok p') (hj : j = i.ports.length)
      (hobs : obs = tag (i.st.dflt.numberPorts + 1) [.reset .receipt .rand])

theorem step_at {i i' : Inst} {op : Op} {obs : Obs} {q j : Nat} {p' : Port} (h : i.step op = .ok (i', obs, q))
    (hp' : i'.ports[j]? = some p') : StepAt i op i' obs j p' := by
  cases step_cases h with
  | @port _ k p p1 s' o n hk hc =>
    rcases setPort_cases hk p1 j with ⟨hj, h0, he⟩ | ⟨hj, he⟩ <;> rw [he] at hp'
    · subst hj
      cases hp'
      exact .call h0 hc rfl rfl
    · refine .same hp' (fun e => ?_) fun o ho => ?_
      · rw [hc.port?] at e
        exact absurd (Option.some.inj e).symm hj
      · exact absurd (mem_tag.1 ho).1 hj
  | @idle _ k h1 h2 =>
    refine .same hp' (fun e => ?_) fun _ ho => nomatch ho
    rw [h1] at e
    cases e
    exact h2.resolve_left fun hn => by rw [portAt_succ, hp'] at hn; cases hn
  | setSlaveOnly | setQuality => exact .same hp' (fun e => nomatch e) fun _ ho => nomatch ho
  | bmca hx => exact .bmca rfl hx
  | addPort hnew =>
    rcases getElem?_concat_some hp' with h1 | ⟨hj, rfl⟩
    · refine .same h1 (fun e => nomatch e) fun o ho => ?_
      cases List.mem_singleton.1 ho
      trivial
    · exact .new rfl hnew hj rfl

theorem step_ports_length {i i' : Inst} {op : Op} {obs : Obs} {q : Nat} (h : i.step op = .ok (i', obs, q)) :
    i.ports.length ≤ i'.ports.length := by
  cases step_cases h with
  | port => exact Nat.le_of_eq (setPort_length _ _ _).symm
  | idle | setSlaveOnly | setQuality => exact Nat.le_refl _
  | addPort => exact List.length_append ▸ Nat.le_add_right _ _
  | bmca hx =>
    obtain ⟨_, _, _, run⟩ := bmca_ran hx
    exact Nat.le_of_eq run.length.symm

end Statime
