import StatimeModel.Model.Time
/-
For each checked operator of `Model/Time.lean`: when it succeeds (`_eq_some_iff`; `_eq_some` to show that it does)
and with what value (`_val`).
A bound is written as a numeral where `omega` is to read it (`in*_iff`, `clampI64_*`, `timeAddDur_eq_some_iff`) and
with the model's constant (`I127`, `U128`, `U64`) where the model's definition or the user's hypothesis has that form.
-/
namespace Statime

theorem I127_lt_U128 : I127 < U128 := by decide

theorem inI128_iff (x : Int) : inI128 x = true ↔
    (-170141183460469231731687303715884105728 ≤ x ∧ x < 170141183460469231731687303715884105728) := by
  unfold inI128
  rw [Bool.and_eq_true, decide_eq_true_eq, decide_eq_true_eq]
  -- the cast of the numeral `I127` unfolds to the same numeral in `Int`
  rfl

theorem inU128_iff (x : Int) : inU128 x = true ↔
    (0 ≤ x ∧ x < 340282366920938463463374607431768211456) := by
  unfold inU128
  rw [Bool.and_eq_true, decide_eq_true_eq, decide_eq_true_eq]
  rfl

theorem inI64_iff (x : Int) : inI64 x = true ↔
    (-9223372036854775808 ≤ x ∧ x < 9223372036854775808) := by
  unfold inI64
  rw [Bool.and_eq_true, decide_eq_true_eq, decide_eq_true_eq]
  rfl

theorem wrapI64_of_inRange (x : Int) (h : inI64 x = true) : wrapI64 x = x := by
  rw [inI64_iff] at h
  unfold wrapI64 I63 U64
  rw [Int.emod_eq_of_lt (by omega) (by omega), Int.add_sub_cancel]

theorem clampI64_def (x : Int) :
    clampI64 x = if x < -9223372036854775808 then -9223372036854775808
      else if 9223372036854775808 ≤ x then 9223372036854775807 else x := rfl

theorem clampI64_of_inRange (x : Int) (h : inI64 x = true) : clampI64 x = x := by
  rw [inI64_iff] at h
  rw [clampI64_def, if_neg (Int.not_lt.2 h.1), if_neg (Int.not_le.2 h.2)]

theorem clampI64_range (x : Int) : -9223372036854775808 ≤ clampI64 x ∧ clampI64 x < 9223372036854775808 := by
  rw [clampI64_def]
  omega

theorem clampI64_mono {a b : Int} (h : a ≤ b) : clampI64 a ≤ clampI64 b := by
  rw [clampI64_def, clampI64_def]
  omega

theorem tivToDur_add (a b : Int) : tivToDur (a + b) = tivToDur a + tivToDur b := Int.add_mul ..

theorem timeSubnano_range (t : Nat) : (0 : Int) ≤ timeSubnano t ∧ timeSubnano t < 65536 :=
  ⟨Int.natCast_nonneg _, Int.ofNat_lt.2 (Nat.div_lt_of_lt_mul (Nat.mod_lt t (by decide)))⟩

theorem ediv_bounds (a : Int) {n : Int} (hn : 0 < n) : a / n * n ≤ a ∧ a < a / n * n + n := by
  have h := Int.lt_ediv_add_one_mul_self a hn
  rw [Int.add_mul, Int.one_mul] at h
  exact ⟨Int.ediv_mul_le a (Int.ne_of_gt hn), h⟩

/-- with a literal `n` these are linear facts about the atom `Int.tdiv a n` -/
theorem tdiv_bounds (a : Int) {n : Int} (hn : 0 < n) :
    (0 ≤ a → 0 ≤ a - Int.tdiv a n * n ∧ a - Int.tdiv a n * n < n) ∧
    (a ≤ 0 → -n < a - Int.tdiv a n * n ∧ a - Int.tdiv a n * n ≤ 0) := by
  have e : a - Int.tdiv a n * n = Int.tmod a n := by rw [Int.tmod_def, Int.mul_comm]
  rw [e]
  refine ⟨fun h => ⟨Int.tmod_nonneg n h, Int.tmod_lt_of_pos a hn⟩, fun h => ?_⟩
  have h1 := Int.tmod_nonneg n (Int.neg_nonneg.2 h)
  have h2 := Int.tmod_lt_of_pos (-a) hn
  rw [Int.neg_tmod] at h1 h2
  omega

theorem ite_some_iff {α} {c : Prop} [Decidable c] {x y : α} : (if c then some x else none) = some y ↔ c ∧ y = x := by
  by_cases h : c
  · rw [if_pos h]; exact ⟨fun e => ⟨h, (Option.some.inj e).symm⟩, fun e => e.2 ▸ rfl⟩
  · rw [if_neg h]; exact ⟨(fun e => nomatch e), fun e => absurd e.1 h⟩

theorem durAdd_eq_some_iff {a b r : Int} : durAdd a b = some r ↔ inI128 (a + b) = true ∧ r = a + b := by
  unfold durAdd; exact ite_some_iff

theorem durNeg_eq_some_iff {a r : Int} : durNeg a = some r ↔ inI128 (-a) = true ∧ r = -a := by
  unfold durNeg; exact ite_some_iff

theorem inI128_neg {d : Int} (h : -(I127 : Int) < d ∧ d < I127) : inI128 (-d) = true := by
  unfold I127 at h
  rw [inI128_iff]
  omega

theorem durSub_eq_some_iff {a b r : Int} :
    durSub a b = some r ↔ inI128 (-b) = true ∧ inI128 (a - b) = true ∧ r = a - b := by
  unfold durSub durNeg
  by_cases hn : inI128 (-b) = true
  · rw [if_pos hn]
    simp only [durAdd_eq_some_iff, hn, true_and, Int.sub_eq_add_neg]
  · rw [if_neg hn]
    exact ⟨(fun e => nomatch e), fun e => absurd e.1 hn⟩

theorem durMulFix_eq_some_iff {a b r : Int} :
    durMulFix a b = some r ↔ inI128 (a * b / (F32 : Int)) = true ∧ r = a * b / (F32 : Int) := by
  unfold durMulFix; exact ite_some_iff

/-- dividing by a whole number of units: the 2^32 scale cancels and the quotient is truncated -/
theorem durDivFix_mul_F32 {a r n : Int} (hn : 0 < n) :
    durDivFix a (n * (F32 : Int)) = some r ↔ inI128 (Int.tdiv a n) = true ∧ r = Int.tdiv a n := by
  have hF : (0 : Int) < (F32 : Int) := by unfold F32; decide
  unfold durDivFix
  rw [if_neg (Int.ne_of_gt (Int.mul_pos hn hF))]
  dsimp only
  rw [Int.mul_tdiv_mul_of_pos_left a n hF]
  exact ite_some_iff

theorem durAbs_val {a r : Int} (h : durAbs a = some r) : (a < 0 → r = -a) ∧ (0 ≤ a → r = a) := by
  unfold durAbs at h
  by_cases ha : a < 0
  · rw [if_pos ha] at h
    exact ⟨fun _ => (durNeg_eq_some_iff.1 h).2, fun h0 => absurd ha (Int.not_lt.2 h0)⟩
  · rw [if_neg ha] at h
    exact ⟨fun h0 => absurd h0 ha, fun _ => (Option.some.inj h).symm⟩

/-- both operands fit `I96F32`, and then neither the negation nor the difference can overflow -/
theorem timeSub_eq_some_iff {a b : Nat} {d : Int} : timeSub a b = some d ↔ a < I127 ∧ b < I127 ∧ d = (a : Int) - b := by
  unfold timeSub
  by_cases hc : a < I127 ∧ b < I127
  · rw [if_pos hc, durSub_eq_some_iff, inI128_iff, inI128_iff]
    unfold I127 at hc
    exact ⟨fun e => ⟨hc.1, hc.2, e.2.2⟩, fun e => ⟨by omega, by omega, e.2.2⟩⟩
  · rw [if_neg hc]
    exact ⟨(fun e => nomatch e), fun e => absurd ⟨e.1, e.2.1⟩ hc⟩

theorem timeSub_val {a b : Nat} {d : Int} (h : timeSub a b = some d) : d = (a : Int) - b :=
  (timeSub_eq_some_iff.1 h).2.2

/-- one test, not two: `Int.toNat` is the saturation at zero -/
theorem timeAddDur_eq_some_iff {t r : Nat} {d : Int} :
    timeAddDur t d = some r ↔
      (t : Int) + d < 340282366920938463463374607431768211456 ∧ r = ((t : Int) + d).toNat := by
  unfold timeAddDur
  dsimp only
  by_cases h : (t : Int) + d < 0
  · rw [if_pos h, Option.some.injEq, Int.toNat_of_nonpos (Int.le_of_lt h)]
    exact ⟨fun e => ⟨Int.lt_trans h (by decide), e.symm⟩, fun e => e.2.symm⟩
  · rw [if_neg h, ite_some_iff, inU128_iff]
    exact ⟨fun e => ⟨e.1.2, e.2⟩, fun e => ⟨⟨Int.not_lt.1 h, e.1⟩, e.2⟩⟩

theorem timeAddDur_of_neg (t : Nat) (d : Int) (h : (t : Int) + d < 0) : timeAddDur t d = some 0 :=
  timeAddDur_eq_some_iff.2 ⟨Int.lt_trans h (by decide), (Int.toNat_of_nonpos (Int.le_of_lt h)).symm⟩

theorem timeAddDur_of_inU128 {t : Nat} {d : Int} (h : inU128 ((t : Int) + d) = true) :
    timeAddDur t d = some ((t : Int) + d).toNat :=
  timeAddDur_eq_some_iff.2 ⟨((inU128_iff _).1 h).2, rfl⟩

/-- the two directions without `Int.toNat`, as `omega` likes them -/
theorem timeAddDur_eq_some {t r : Nat} {d : Int} (h : (r : Int) = t + d) (hr : r < U128) : timeAddDur t d = some r :=
  timeAddDur_eq_some_iff.2 ⟨h ▸ Int.ofNat_lt.2 hr, h ▸ (Int.toNat_natCast r).symm⟩

theorem timeAddDur_val {t r : Nat} {d : Int} (h : timeAddDur t d = some r) (hp : 0 ≤ (t : Int) + d) :
    (r : Int) = t + d :=
  (timeAddDur_eq_some_iff.1 h).2 ▸ Int.toNat_of_nonneg hp

theorem timeAddDur_sub {a b : Nat} (ha : a < U128) : timeAddDur b ((a : Int) - b) = some a :=
  timeAddDur_eq_some (by rw [Int.add_comm, Int.sub_add_cancel]) ha

theorem timeSubDur_eq_add_neg {t : Nat} {d : Int} (h : inI128 (-d) = true) : timeSubDur t d = timeAddDur t (-d) := by
  unfold timeSubDur
  rw [durNeg_eq_some_iff.2 ⟨h, rfl⟩]

theorem timeToWire_eq_some_iff {t : Nat} {w : WireTs} :
    timeToWire t = some w ↔ t / SEC < U64 ∧ w = ⟨t / SEC, t % SEC / F32⟩ := by
  have e : timeToWire t = if t / SEC < U64 then some ⟨t / SEC, t % SEC / F32⟩ else none := by
    unfold timeToWire timeSecs timeSubsecNanos
    dsimp only
    by_cases h : t / SEC < U64
    · rw [if_pos h, if_pos h]
    · rw [if_neg h, if_neg h]
  rw [e]; exact ite_some_iff

theorem wireToTime_eq_some_iff {w : WireTs} {r : Nat} :
    wireToTime w = some r ↔ (w.secs * NS + w.nanos) * F32 < U128 ∧ r = (w.secs * NS + w.nanos) * F32 := by
  unfold wireToTime; exact ite_some_iff

end Statime
