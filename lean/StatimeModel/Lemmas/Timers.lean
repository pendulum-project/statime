import StatimeModel.Lemmas.Frames
/-
The timer discipline (C12): which timers a port waits on in each state (`Port.needs`), and what it means that a call
re-arms what the new state waits on (`Rearm`). It is proved of every handler in `PortStep.lean`.
-/
namespace Statime

def Out.isReset : Out → Bool
  | .reset .. => true
  | _ => false

theorem Touch.noReset {p p' : Port} {outs : List Out} (h : Touch p p' outs) : ∀ o ∈ outs, o.isReset = false := by
  intro o ho
  rcases h.outs o ho with rfl | ⟨m, rfl, _⟩ <;> rfl

/-- the timers without which a port would make no progress: a Listening port gets no BMCA decision while it has heard no
qualified master, so it depends on the announce receipt timeout; a Master on its announce and sync timers; a Slave on its
delay request timer. (Passive and Slave ports whose master falls silent are moved by the next BMCA run. A port with the
peer delay mechanism sends its Pdelay_Req on the delay timer in every state, but statime first starts that timer at
decision S1, `port/bmca.rs`: so only a Slave is said to wait on it.) -/
def Port.needs (p : Port) : Timer → Bool
  | .receipt => decide (p.st = .listening)
  | .announce => p.st.isMaster
  | .sync => p.st.isMaster
  | .delay => p.st.isSlave
  | .filter => false

/-- one handler call re-arms what the new state waits on: every timer the port needs afterwards was needed before
(so it is armed, by the invariant `C12.AllWait`) and is not the one that just fired, or is re-armed by the returned
actions — with one exception, the recovery of a port from a peer-delay fault (`C12.recovery_arms_nothing`, known finding
`recovered-port-receipt-timer-not-armed`). -/
def Rearm (p p' : Port) (outs : List Out) (fired : Option Timer) : Prop :=
  ∀ k, p'.needs k = true →
    (p.needs k = true ∧ fired ≠ some k) ∨ (∃ d, Out.reset k d ∈ outs) ∨ (p.st = .faulty ∧ p'.st = .listening)

theorem rearm_refl (p : Port) (outs : List Out) : Rearm p p outs none :=
  fun _ h => Or.inl ⟨h, by intro e; cases e⟩

theorem rearm_mono {p p' : Port} {outs outs' : List Out} {f : Option Timer} (h : Rearm p p' outs f)
    (hsub : ∀ o ∈ outs, o ∈ outs') : Rearm p p' outs' f := by
  intro k hk
  rcases h k hk with h1 | ⟨d, hd⟩ | h3
  · exact Or.inl h1
  · exact Or.inr (Or.inl ⟨d, hsub _ hd⟩)
  · exact Or.inr (Or.inr h3)

theorem needs_listening {q : Port} (h : q.st = .listening) {k : Timer} (hk : q.needs k = true) : k = .receipt := by
  cases k with
  | receipt => rfl
  | announce | sync | delay => rw [Port.needs, h] at hk; cases hk
  | filter => cases hk

theorem needs_master {q : Port} (h : q.st = .master) {k : Timer} (hk : q.needs k = true) : k = .announce ∨ k = .sync := by
  cases k with
  | announce => exact .inl rfl
  | sync => exact .inr rfl
  | receipt => rw [Port.needs, h] at hk; exact absurd (of_decide_eq_true hk) (fun e => nomatch e)
  | delay => rw [Port.needs, h] at hk; cases hk
  | filter => cases hk

theorem needs_slave {q : Port} (h : q.st.isSlave = true) {k : Timer} (hk : q.needs k = true) : k = .delay := by
  cases k with
  | delay => rfl
  | receipt => rw [Port.needs, decide_eq_true_eq] at hk; rw [hk] at h; cases h
  | announce | sync => rw [(isMaster_iff _).1 hk] at h; cases h
  | filter => cases hk

/-- the actions handed out wherever a port goes Listening re-arm what a Listening port waits on -/
theorem listening_covered {q : Port} (h : q.st = .listening) {k : Timer} (hk : q.needs k = true) :
    ∃ d, Out.reset k d ∈ [Out.reset .receipt .rand] :=
  needs_listening h hk ▸ ⟨_, .head _⟩

/-- likewise where a port goes Master -/
theorem master_covered {q : Port} (h : q.st = .master) {k : Timer} (hk : q.needs k = true) :
    ∃ d, Out.reset k d ∈ [Out.reset .announce (.exact 0), Out.reset .sync (.exact 0)] := by
  rcases needs_master h hk with rfl | rfl
  · exact ⟨_, .head _⟩
  · exact ⟨_, .tail _ (.head _)⟩

theorem needs_congr (p p' : Port) (h : p'.st = p.st) (k : Timer) : p'.needs k = p.needs k := by
  cases k <;> simp [Port.needs, h]

theorem rearm_of_idle (p p' : Port) (outs : List Out) (fired : Option Timer)
    (h : p'.st = .passive ∨ p'.st = .faulty) : Rearm p p' outs fired := by
  intro k hk
  rcases h with h | h <;> cases k <;> simp [Port.needs, h, PState.isMaster, PState.isSlave] at hk

theorem rearm_of_strel (p p' : Port) (outs : List Out) (h : StRel p.st p'.st) : Rearm p p' outs none := by
  intro k hk
  cases h with
  | same h => exact Or.inl ⟨by rw [← needs_congr p p' h k]; exact hk, by intro e; cases e⟩
  | slave h1 h2 =>
    cases needs_slave h2 hk
    exact Or.inl ⟨h1, fun e => nomatch e⟩
  | faulty h => exact rearm_of_idle p p' outs none (.inr h) k hk
  | recovered h1 h2 => exact Or.inr (Or.inr ⟨h1, h2⟩)

theorem Rearm.fired {p p' : Port} {outs : List Out} {fired : Option Timer} (h : Rearm p p' outs none)
    (hf : ∀ k, fired = some k → p.needs k = true → ∃ d, Out.reset k d ∈ outs) : Rearm p p' outs fired := by
  intro k hk
  rcases h k hk with ⟨hn, _⟩ | h2
  · by_cases e : fired = some k
    · exact .inr (.inl (hf k e hn))
    · exact .inl ⟨hn, e⟩
  · exact .inr h2

end Statime
