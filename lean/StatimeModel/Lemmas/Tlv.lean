import StatimeModel.Lemmas.Bytes
/-
`Tlv.WF` is what makes a list of TLVs survive the wire: it serialises to bytes that `tlvCheck` accepts and `tlvIter`
reads back as the same list (`tlv_roundtrip`). The converse, that `tlvIter` yields only `Tlv.WF` TLVs on a suffix that
`tlvCheck` accepts, is not proved; where it is wanted it stands as a hypothesis.
-/
namespace Statime

def Tlv.WF (t : Tlv) : Prop := t.ty < 65536 ∧ t.value.length % 2 = 0 ∧ t.value.length < 65536

theorem Tlv.bytes_length (t : Tlv) : t.bytes.length = t.wireSize := by
  unfold Tlv.bytes Tlv.wireSize
  simp only [List.length_append, beBytes_length]

theorem flatMap_bytes_length (ts : List Tlv) : (ts.flatMap Tlv.bytes).length = (ts.map Tlv.wireSize).sum := by
  induction ts with
  | nil => rfl
  | cons t ts ih => simp only [List.flatMap_cons, List.length_append, List.map_cons, List.sum_cons, ih, Tlv.bytes_length]

theorem beVal_head_bytes (t : Tlv) (rest : List UInt8) (h : t.WF) :
    beVal (t.bytes ++ rest) 0 2 = t.ty ∧ beVal (t.bytes ++ rest) 2 2 = t.value.length := by
  unfold Tlv.bytes
  rw [List.append_assoc]
  exact beVal_beBytes_pair (n := 2) (n' := 2) _ h.1 h.2.2

theorem drop_bytes (t : Tlv) (rest : List UInt8) : (t.bytes ++ rest).drop (4 + t.value.length) = rest :=
  List.drop_left' (Tlv.bytes_length t)

theorem bytes_append_length (t : Tlv) (rest : List UInt8) :
    (t.bytes ++ rest).length = 4 + t.value.length + rest.length := by
  rw [List.length_append, Tlv.bytes_length]; rfl

theorem le_bytes_append_length (t : Tlv) (rest : List UInt8) : 4 + t.value.length ≤ (t.bytes ++ rest).length := by
  rw [bytes_append_length]
  exact Nat.le_add_right _ _

theorem tlvCheck_bytes_append (fuel : Nat) (t : Tlv) (rest : List UInt8) (ht : t.WF) :
    tlvCheck (fuel + 1) (t.bytes ++ rest) = tlvCheck fuel rest := by
  have hlen := le_bytes_append_length t rest
  rw [tlvCheck, if_pos (Nat.le_trans (Nat.le_add_right 4 _) hlen)]
  rw [(beVal_head_bytes t _ ht).2, if_neg (not_not_intro ht.2.1), if_neg (Nat.not_lt.2 hlen), drop_bytes]

theorem tlvIter_bytes_append (fuel : Nat) (t : Tlv) (rest : List UInt8) (ht : t.WF) :
    tlvIter (fuel + 1) (t.bytes ++ rest) = t :: tlvIter fuel rest := by
  have hv : (t.bytes ++ rest).drop 4 = t.value ++ rest := by
    unfold Tlv.bytes
    rw [List.append_assoc]
    exact List.drop_left' (by simp)
  rw [tlvIter, if_pos (Nat.le_trans (Nat.le_add_right 4 _) (le_bytes_append_length t rest))]
  dsimp only
  rw [(beVal_head_bytes t _ ht).2, (beVal_head_bytes t _ ht).1, drop_bytes, hv, List.take_left]

theorem tlv_roundtrip (ts : List Tlv) (hwf : ∀ t ∈ ts, t.WF) :
    ∀ (f : Nat), (ts.flatMap Tlv.bytes).length ≤ f →
      tlvCheck f (ts.flatMap Tlv.bytes) = .ok () ∧ tlvIter f (ts.flatMap Tlv.bytes) = ts := by
  induction ts with
  | nil =>
    intro f _
    cases f <;> exact ⟨rfl, rfl⟩
  | cons t ts ih =>
    intro f hf
    rw [List.flatMap_cons] at hf ⊢
    rw [bytes_append_length] at hf
    cases f with
    | zero => omega
    | succ f' =>
      have ht := hwf t List.mem_cons_self
      obtain ⟨h1, h2⟩ := ih (fun x hx => hwf x (List.mem_cons_of_mem _ hx)) f' (by omega)
      rw [tlvCheck_bytes_append _ _ _ ht, tlvIter_bytes_append _ _ _ ht, h2]
      exact ⟨h1, rfl⟩

end Statime
