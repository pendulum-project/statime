import StatimeModel.Lemmas.Bytes
/-
`decode b` succeeds exactly when the four facts `Decodes b ty` hold, and then returns `msgAt ty b`
(`decode_inv`, `Decodes.decode_eq`).
-/
namespace Statime

/-- the content buffer `buffer[34..messageLength]` -/
def contentOf (b : List UInt8) : List UInt8 := (b.take (declaredLen b)).drop 34

def bodyAt (ty : MsgType) (c : List UInt8) : Body :=
  match ty with
  | .sync => .sync (readTs c 0)
  | .delayReq => .delayReq (readTs c 0)
  | .pdelayReq => .pdelayReq (readTs c 0)
  | .pdelayResp => .pdelayResp (readTs c 0) (readPortId c 10)
  | .followUp => .followUp (readTs c 0)
  | .delayResp => .delayResp (readTs c 0) (readPortId c 10)
  | .pdelayRespFu => .pdelayRespFu (readTs c 0) (readPortId c 10)
  | .announce => .announce
      { origin := readTs c 0, utcOffset := toSigned 16 (beVal c 10 2), p1 := byteAt c 13,
        clockClass := byteAt c 14, accuracy := normAccuracy (byteAt c 15), variance := beVal c 16 2,
        p2 := byteAt c 18, gm := beVal c 19 8, steps := beVal c 27 2, timeSource := byteAt c 29 }
  | .signaling => .signaling (readPortId c 0)
  | .management => .management (readPortId c 0) (byteAt c 10) (byteAt c 11) (normAction (byteAt c 12 % 16))

theorem readBody_eq (ty : MsgType) (c : List UInt8) :
    readBody ty c = if c.length < ty.bodySize then .error .short else .ok (bodyAt ty c) := rfl

theorem readBody_eq_ok_iff {ty : MsgType} {c : List UInt8} {body : Body} :
    readBody ty c = .ok body ↔ ty.bodySize ≤ c.length ∧ body = bodyAt ty c := by
  rw [readBody_eq]
  by_cases hc : c.length < ty.bodySize
  · rw [if_pos hc]
    exact ⟨(fun h => nomatch h), fun h => absurd h.1 (Nat.not_le.2 hc)⟩
  · rw [if_neg hc]
    exact ⟨fun h => ⟨Nat.not_lt.1 hc, (Except.ok.inj h).symm⟩, fun h => h.2 ▸ rfl⟩

theorem bodyAt_type (ty : MsgType) (c : List UInt8) : (bodyAt ty c).type = ty := by cases ty <;> rfl

/-- the TLV suffix `buffer[34 + body size .. messageLength]` -/
def suffixAt (ty : MsgType) (b : List UInt8) : List UInt8 := (contentOf b).drop ty.bodySize

def msgAt (ty : MsgType) (b : List UInt8) : Msg :=
  { header := readHeader b, body := bodyAt ty (contentOf b), suffix := suffixAt ty b }

/-- what the six tests of `decodeAux` come to when all of them pass -/
structure Decodes (b : List UInt8) (ty : MsgType) : Prop where
  nibble : MsgType.ofNibble (byteAt b 0 % 16) = some ty
  bodyFits : 34 + ty.bodySize ≤ declaredLen b
  inBuffer : declaredLen b ≤ b.length
  tlv : tlvCheck (suffixAt ty b).length (suffixAt ty b) = .ok ()

theorem contentOf_length {b : List UInt8} (h : declaredLen b ≤ b.length) :
    (contentOf b).length = declaredLen b - 34 := by
  rw [contentOf, List.length_drop, List.length_take_of_le h]

theorem Decodes.decode_eq {b : List UInt8} {ty : MsgType} (d : Decodes b ty) : decode b = .ok (msgAt ty b) := by
  have h34 : 34 ≤ declaredLen b := Nat.le_trans (Nat.le_add_right ..) d.bodyFits
  have hb : readBody ty (contentOf b) = .ok (bodyAt ty (contentOf b)) :=
    readBody_eq_ok_iff.2 ⟨by rw [contentOf_length d.inBuffer]; exact Nat.le_sub_of_add_le' d.bodyFits, rfl⟩
  unfold decode decodeAux
  rw [decide_eq_false (Nat.not_lt.2 (Nat.le_trans h34 d.inBuffer)), decide_eq_false (Nat.not_lt.2 d.inBuffer), d.nibble,
    if_neg Bool.false_ne_true]
  dsimp only
  rw [if_neg (Nat.not_lt.2 h34), if_neg Bool.false_ne_true, ← contentOf, hb]
  dsimp only
  rw [← suffixAt, d.tlv]
  rfl

theorem decode_inv {b : List UInt8} {m : Msg} (h : decode b = .ok m) : ∃ ty, Decodes b ty ∧ m = msgAt ty b := by
  unfold decode decodeAux at h
  -- the six tests of `decodeAux` in turn, each of which ends in an error when it fails: fewer than 34 octets,
  -- no such type, `messageLength` below 34, fewer than `messageLength` octets, content too short for the body, TLVs
  split at h; · cases h
  split at h; · cases h
  rename_i ty hty
  split at h; · cases h
  rename_i h34
  split at h; · cases h
  rename_i htr
  dsimp only at h
  split at h; · cases h
  rename_i body hbody
  split at h; · cases h
  rename_i htlv
  have hlen : declaredLen b ≤ b.length := Nat.not_lt.1 (mt decide_eq_true htr)
  obtain ⟨hsz, rfl⟩ := readBody_eq_ok_iff.1 hbody
  rw [← contentOf, contentOf_length hlen] at hsz
  exact ⟨ty, ⟨hty, Nat.add_le_of_le_sub' (Nat.not_lt.1 h34) hsz, hlen, htlv⟩, (Except.ok.inj h).symm⟩

theorem writeTs_length (t : WireTs) : (writeTs t).length = 10 := by simp [writeTs]
theorem writePortId_length (p : PortId) : (writePortId p).length = 10 := by simp [writePortId]

theorem writeHeader_length (h : Header) (ty : MsgType) (n : Nat) : (writeHeader h ty n).length = 34 := by
  simp only [writeHeader, List.length_append, writePortId_length, beBytes_length, List.length_cons, List.length_nil]

/-- the header as the peeling lemmas of `Bytes` want it: octets and fields in a row, nested to the right -/
theorem writeHeader_append (h : Header) (ty : MsgType) (n : Nat) (rest : List UInt8) :
    writeHeader h ty n ++ rest =
      UInt8.ofNat (h.sdoId / 256 % 16 * 16 + ty.toNibble) :: UInt8.ofNat (h.verMinor % 16 * 16 + h.verMajor % 16) ::
      (beBytes n 2 ++ UInt8.ofNat h.domain :: UInt8.ofNat (h.sdoId % 256) :: UInt8.ofNat (flagByte0 h.flags) ::
       UInt8.ofNat (flagByte1 h.flags) :: (beBytes (ofSigned 64 h.correction) 8 ++ 0 :: 0 :: 0 :: 0 ::
       (writePortId h.src ++ (beBytes h.seq 2 ++
        UInt8.ofNat ty.controlField :: UInt8.ofNat (ofSigned 8 h.logInterval) :: rest)))) := by
  simp only [writeHeader, List.append_assoc, List.cons_append, List.nil_append]

theorem writeBody_length (body : Body) : (writeBody body).length = body.type.bodySize := by
  cases body
  all_goals
    simp only [writeBody, zeros, List.length_append, writeTs_length, writePortId_length, beBytes_length,
      List.length_replicate, List.length_cons, List.length_nil]
    rfl

theorem encode_length (m : Msg) : (encode m).length = m.wireSize := by
  simp [encode, writeHeader_length, writeBody_length, Msg.wireSize, Nat.add_assoc]

theorem drop_encode_header (m : Msg) : (encode m).drop 34 = writeBody m.body ++ m.suffix := by
  rw [encode, List.append_assoc]
  exact List.drop_left' (writeHeader_length ..)

theorem drop_encode_body (m : Msg) : (encode m).drop (34 + m.body.type.bodySize) = m.suffix :=
  List.drop_left' (by rw [List.length_append, writeHeader_length, writeBody_length])

theorem wireSize_of_decode {b : List UInt8} {m : Msg} (h : decode b = .ok m) : m.wireSize = declaredLen b := by
  obtain ⟨ty, d, rfl⟩ := decode_inv h
  simp only [Msg.wireSize, msgAt, suffixAt, bodyAt_type, List.length_drop, contentOf_length d.inBuffer]
  rw [Nat.sub_sub, Nat.add_sub_cancel' d.bodyFits]

theorem beVal_content {b : List UInt8} {k w : Nat} (h : 34 + k + w ≤ declaredLen b) :
    beVal (contentOf b) k w = beVal b (34 + k) w := by
  unfold contentOf
  rw [beVal_drop, beVal_take _ _ _ _ h]

theorem byteAt_content {b : List UInt8} {k : Nat} (h : 34 + k < declaredLen b) :
    byteAt (contentOf b) k = byteAt b (34 + k) := by
  unfold contentOf
  rw [byteAt_drop, byteAt_take _ _ _ h]

theorem readTs_content {b : List UInt8} {k : Nat} (h : 34 + k + 10 ≤ declaredLen b) :
    readTs (contentOf b) k = readTs b (34 + k) := by
  unfold readTs
  rw [beVal_content (by omega), beVal_content (by omega), Nat.add_assoc]

theorem readPortId_content {b : List UInt8} {k : Nat} (h : 34 + k + 10 ≤ declaredLen b) :
    readPortId (contentOf b) k = readPortId b (34 + k) := by
  unfold readPortId
  rw [beVal_content (by omega), beVal_content (by omega), Nat.add_assoc]

theorem readHeader_congr_take {b b' : List UInt8} {n : Nat} (h : b.take n = b'.take n) (hn : 34 ≤ n) :
    readHeader b = readHeader b' := by
  have B : ∀ i, i < 34 → byteAt b i = byteAt b' i := fun i hi => byteAt_congr_take h (Nat.lt_of_lt_of_le hi hn)
  have V : ∀ i w, i + w ≤ 34 → beVal b i w = beVal b' i w := fun i w hi => beVal_congr_take h (Nat.le_trans hi hn)
  unfold readHeader readFlags readPortId
  rw [B 0 (by decide), B 1 (by decide), B 4 (by decide), B 5 (by decide), B 6 (by decide), B 7 (by decide),
    B 33 (by decide), V 8 8 (by decide), V 20 8 (by decide), V (20 + 8) 2 (by decide), V 30 2 (by decide)]

theorem toNibble_of_ofNibble {n : Nat} {ty : MsgType} (hn : n < 16) (h : MsgType.ofNibble n = some ty) :
    ty.toNibble = n := by
  have key : ∀ k : Fin 16, ∀ t : MsgType, MsgType.ofNibble k.val = some t → t.toNibble = k.val := by
    decide
  exact key ⟨n, hn⟩ ty h

theorem ofNibble_toNibble (ty : MsgType) : MsgType.ofNibble ty.toNibble = some ty := by cases ty <;> rfl

theorem toNibble_lt (ty : MsgType) : ty.toNibble < 16 := by cases ty <;> decide

theorem encode_type (m : Msg) : MsgType.ofNibble (byteAt (encode m) 0 % 16) = some m.body.type := by
  rw [encode, List.append_assoc, writeHeader_append, byteAt_ofNat_cons, nibbles_mod _ _ (toNibble_lt _),
    ofNibble_toNibble]

theorem MsgType.bodySize_le (ty : MsgType) : ty.bodySize ≤ 30 := by cases ty <;> decide

theorem normAction_of_le {a : Nat} (h : a ≤ 5) : normAction a = a := by
  unfold normAction; split <;> omega

theorem normAccuracy_idem (v : Nat) : normAccuracy (normAccuracy v) = normAccuracy v := by
  unfold normAccuracy
  split <;> simp

theorem normAccuracy_lt (v : Nat) (h : v < 256) : normAccuracy v < 256 := by
  unfold normAccuracy; split <;> omega

theorem normAction_le (v : Nat) : normAction v ≤ 5 := by
  unfold normAction; split <;> omega

end Statime
