import StatimeModel.Lemmas.WireBasic
/-
`Msg.WF`: every field within the width of its place in the frame. Such a message survives `decode (encode m)`, and
everything `decode` returns is one.
-/
namespace Statime

def PortId.WF (p : PortId) : Prop := p.clock < 18446744073709551616 ∧ p.port < 65536
def WireTs.WF (t : WireTs) : Prop := t.secs < 281474976710656 ∧ t.nanos < 4294967296
def Header.WF (h : Header) : Prop :=
  h.sdoId < 4096 ∧ h.verMajor < 16 ∧ h.verMinor < 16 ∧ h.domain < 256 ∧
  (-9223372036854775808 ≤ h.correction ∧ h.correction < 9223372036854775808) ∧ h.src.WF ∧ h.seq < 65536 ∧
  (-128 ≤ h.logInterval ∧ h.logInterval < 128)

theorem Header.WF.sdoLt {h : Header} (hw : h.WF) : h.sdoId < 4096 := hw.1
theorem Header.WF.majorLt {h : Header} (hw : h.WF) : h.verMajor < 16 := hw.2.1
theorem Header.WF.minorLt {h : Header} (hw : h.WF) : h.verMinor < 16 := hw.2.2.1
theorem Header.WF.domainLt {h : Header} (hw : h.WF) : h.domain < 256 := hw.2.2.2.1
theorem Header.WF.corr {h : Header} (hw : h.WF) :
    -9223372036854775808 ≤ h.correction ∧ h.correction < 9223372036854775808 := hw.2.2.2.2.1
theorem Header.WF.srcWF {h : Header} (hw : h.WF) : h.src.WF := hw.2.2.2.2.2.1
theorem Header.WF.seqLt {h : Header} (hw : h.WF) : h.seq < 65536 := hw.2.2.2.2.2.2.1
theorem Header.WF.logRange {h : Header} (hw : h.WF) : -128 ≤ h.logInterval ∧ h.logInterval < 128 := hw.2.2.2.2.2.2.2

theorem Header.WF.update {h : Header} (hw : h.WF) (f : Flags) {c l : Int} {src : PortId}
    (hc : -9223372036854775808 ≤ c ∧ c < 9223372036854775808) (hs : src.WF) (hl : -128 ≤ l ∧ l < 128) :
    ({ h with flags := f, correction := c, src := src, logInterval := l } : Header).WF :=
  ⟨hw.sdoLt, hw.majorLt, hw.minorLt, hw.domainLt, hc, hs, hw.seqLt, hl⟩

def AnnounceBody.WF (a : AnnounceBody) : Prop :=
  a.origin.WF ∧ (-32768 ≤ a.utcOffset ∧ a.utcOffset < 32768) ∧ a.p1 < 256 ∧ a.clockClass < 256 ∧
  (a.accuracy < 256 ∧ normAccuracy a.accuracy = a.accuracy) ∧ a.variance < 65536 ∧ a.p2 < 256 ∧
  a.gm < 18446744073709551616 ∧ a.steps < 65536 ∧ a.timeSource < 256

def Body.WF : Body → Prop
  | .sync o => o.WF
  | .delayReq o => o.WF
  | .pdelayReq o => o.WF
  | .followUp o => o.WF
  | .pdelayResp rx req => rx.WF ∧ req.WF
  | .delayResp rx req => rx.WF ∧ req.WF
  | .pdelayRespFu o req => o.WF ∧ req.WF
  | .signaling t => t.WF
  | .management t s h a => t.WF ∧ s < 256 ∧ h < 256 ∧ a ≤ 5
  | .announce a => a.WF

def Msg.WF (m : Msg) : Prop :=
  m.header.WF ∧ m.body.WF ∧ tlvCheck m.suffix.length m.suffix = .ok () ∧ m.wireSize < 65536

theorem Msg.WF.headerWF {m : Msg} (hw : m.WF) : m.header.WF := hw.1
theorem Msg.WF.bodyWF {m : Msg} (hw : m.WF) : m.body.WF := hw.2.1
theorem Msg.WF.tlvOk {m : Msg} (hw : m.WF) : tlvCheck m.suffix.length m.suffix = .ok () := hw.2.2.1
theorem Msg.WF.sizeLt {m : Msg} (hw : m.WF) : m.wireSize < 65536 := hw.2.2.2

/-- the shape every message constructor starts from -/
theorem Header.WF_v2 {sdoId minor domain seq : Nat} {src : PortId} (f : Flags) (h1 : sdoId < 4096) (h2 : minor < 16)
    (h3 : domain < 256) (h4 : src.WF) (h5 : seq < 65536) :
    ({ sdoId := sdoId, verMajor := 2, verMinor := minor, domain := domain, flags := f, src := src, seq := seq } :
      Header).WF :=
  ⟨h1, (by decide : (2 : Nat) < 16), h2, h3,
    ⟨(by decide : (-9223372036854775808 : Int) ≤ 0), (by decide : (0 : Int) < 9223372036854775808)⟩, h4, h5,
    ⟨(by decide : (-128 : Int) ≤ 0), (by decide : (0 : Int) < 128)⟩⟩

theorem zeroTs_WF : (⟨0, 0⟩ : WireTs).WF := ⟨by decide, by decide⟩

theorem readTs_writeTs (t : WireTs) (rest : List UInt8) (h : t.WF) : readTs (writeTs t ++ rest) 0 = t :=
  have e := beVal_beBytes_pair (n := 6) (n' := 4) rest h.1 h.2
  congr (congrArg WireTs.mk e.1) e.2

theorem readPortId_writePortId (p : PortId) (rest : List UInt8) (h : p.WF) :
    readPortId (writePortId p ++ rest) 0 = p :=
  have e := beVal_beBytes_pair (n := 8) (n' := 2) rest h.1 h.2
  congr (congrArg PortId.mk e.1) e.2

theorem readPortId_append_right (a b : List UInt8) (i : Nat) (h : a.length ≤ i) :
    readPortId (a ++ b) i = readPortId b (i - a.length) := by
  unfold readPortId
  rw [beVal_append_right _ _ _ _ h, beVal_append_right _ _ _ _ (Nat.le_trans h (Nat.le_add_right i 8)),
    Nat.sub_add_comm h]

theorem readPortId_cons_succ (a : UInt8) (l : List UInt8) (i : Nat) :
    readPortId (a :: l) (i + 1) = readPortId l i := by
  unfold readPortId
  rw [beVal_cons_succ, Nat.add_right_comm, beVal_cons_succ]

theorem bodyAt_writeBody (body : Body) (rest : List UInt8) (hw : body.WF) :
    bodyAt body.type (writeBody body ++ rest) = body := by
  unfold bodyAt
  cases body with
  | sync o | delayReq o | followUp o =>
    simp only [Body.type, writeBody]
    rw [readTs_writeTs _ _ hw]
  | pdelayReq o =>
    simp only [Body.type, writeBody, List.append_assoc]
    rw [readTs_writeTs _ _ hw]
  | pdelayResp o r | delayResp o r | pdelayRespFu o r =>
    simp only [Body.type, writeBody, List.append_assoc]
    rw [readTs_writeTs _ _ hw.1, readPortId_append_right _ _ _ (Nat.le_of_eq (writeTs_length o)),
      writeTs_length, readPortId_writePortId _ _ hw.2]
  | signaling r =>
    simp only [Body.type, writeBody]
    rw [readPortId_writePortId _ _ hw]
  | management r s h a =>
    obtain ⟨hr, hs, hh, ha⟩ := hw
    simp only [Body.type, writeBody, List.append_assoc, List.cons_append, List.nil_append]
    rw [readPortId_writePortId _ _ hr]
    simp only [byteAt_append_right, writePortId_length, Nat.le_refl, Nat.reduceLeDiff, Nat.reduceSub,
      byteAt_cons_succ, byteAt_ofNat_cons]
    rw [Nat.mod_eq_of_lt hs, Nat.mod_eq_of_lt hh, Nat.mod_eq_of_lt (Nat.lt_of_le_of_lt ha (by decide) : a < 256),
      Nat.mod_eq_of_lt (Nat.lt_of_le_of_lt ha (by decide) : a < 16), normAction_of_le ha]
  | announce a =>
    obtain ⟨horigin, hutc, hp1, hclass, ⟨hacc, hnorm⟩, hvar, hp2, hgm, hsteps, hsource⟩ := hw
    simp only [Body.type, writeBody, List.append_assoc, List.cons_append, List.nil_append]
    rw [readTs_writeTs _ _ horigin]
    simp only [beVal_append_right, byteAt_append_right, writeTs_length, beBytes_length, Nat.le_refl,
      Nat.reduceLeDiff, Nat.reduceSub, beVal_cons_succ, byteAt_cons_succ, byteAt_ofNat_cons, beVal_beBytes,
      Nat.reducePow]
    rw [Nat.mod_eq_of_lt (ofSigned_lt 16 _), toSigned_ofSigned 16 _ (by decide) hutc, Nat.mod_eq_of_lt hp1,
      Nat.mod_eq_of_lt hclass, Nat.mod_eq_of_lt hacc, hnorm, Nat.mod_eq_of_lt hvar, Nat.mod_eq_of_lt hp2,
      Nat.mod_eq_of_lt hgm, Nat.mod_eq_of_lt hsteps, Nat.mod_eq_of_lt hsource]

theorem readFlags_writeHeader (h : Header) (ty : MsgType) (n : Nat) (rest : List UInt8) :
    readFlags (writeHeader h ty n ++ rest) = h.flags := by
  rw [writeHeader_append]
  unfold readFlags
  simp only [byteAt_append_right, beBytes_length, Nat.reduceLeDiff, Nat.reduceSub, byteAt_cons_succ, byteAt_ofNat_cons]
  generalize h.flags = f
  -- the flag octets in Horner form, so that `bit_zero_add` / `bit_succ_add` read the digits off
  have e0 : flagByte0 f = b2n f.alternateMaster + 2 * (b2n f.twoStep + 2 * (b2n f.unicast + 2 * (b2n false +
      2 * (b2n false + 2 * (b2n f.profile1 + 2 * (b2n f.profile2 + 2 * 0)))))) := by
    simp only [flagByte0, show b2n false = 0 from rfl, Nat.mul_add, ← Nat.mul_assoc, Nat.mul_zero, Nat.add_zero,
      Nat.zero_add, Nat.reduceMul, Nat.add_assoc]
  have e1 : flagByte1 f = b2n f.leap61 + 2 * (b2n f.leap59 + 2 * (b2n f.utcValid + 2 * (b2n f.ptpTimescale +
      2 * (b2n f.timeTraceable + 2 * (b2n f.freqTraceable + 2 * (b2n f.syncUncertain + 2 * 0)))))) := by
    simp only [flagByte1, Nat.mul_add, ← Nat.mul_assoc, Nat.mul_zero, Nat.add_zero, Nat.reduceMul, Nat.add_assoc]
  simp only [bit_mod_256, Nat.reduceLT, e0, e1, bit_succ_add, bit_zero_add]

theorem readHeader_writeHeader (h : Header) (ty : MsgType) (n : Nat) (rest : List UInt8) (hw : h.WF) :
    readHeader (writeHeader h ty n ++ rest) = h := by
  -- the twelve bits of `sdoId` travel in two places
  have hs : h.sdoId / 256 % 16 * 256 + h.sdoId % 256 % 256 = h.sdoId := by
    rw [Nat.mod_eq_of_lt (Nat.div_lt_of_lt_mul hw.sdoLt), Nat.mod_mod, Nat.div_add_mod']
  unfold readHeader
  rw [readFlags_writeHeader, writeHeader_append]
  simp only [beVal_append_right, byteAt_append_right, readPortId_append_right, writePortId_length, beBytes_length,
    Nat.le_refl, Nat.reduceLeDiff, Nat.reduceSub, beVal_cons_succ, readPortId_cons_succ, byteAt_cons_succ,
    byteAt_ofNat_cons, beVal_beBytes, Nat.reducePow]
  -- what is left, field by field in the order of `readHeader`
  rw [nibbles_div _ _ (Nat.mod_lt _ (by decide)) (toNibble_lt ty), hs,
    nibbles_mod _ _ (Nat.mod_lt _ (by decide)), nibbles_div _ _ (Nat.mod_lt _ (by decide)) (Nat.mod_lt _ (by decide)),
    Nat.mod_eq_of_lt hw.majorLt, Nat.mod_eq_of_lt hw.minorLt, Nat.mod_eq_of_lt hw.domainLt,
    Nat.mod_eq_of_lt (ofSigned_lt 64 _), toSigned_ofSigned 64 _ (by decide) hw.corr,
    readPortId_writePortId _ _ hw.srcWF, Nat.mod_eq_of_lt hw.seqLt,
    Nat.mod_eq_of_lt (ofSigned_lt 8 _), toSigned_ofSigned 8 _ (by decide) hw.logRange]

theorem declaredLen_encode (m : Msg) (hs : m.wireSize < 65536) : declaredLen (encode m) = m.wireSize := by
  rw [declaredLen, encode, List.append_assoc, writeHeader_append, beVal_cons_succ, beVal_cons_succ]
  exact beVal_beBytes_of_lt _ hs

theorem contentOf_encode (m : Msg) (hs : m.wireSize < 65536) : contentOf (encode m) = writeBody m.body ++ m.suffix := by
  rw [contentOf, declaredLen_encode m hs, ← encode_length, List.take_length, drop_encode_header]

theorem suffixAt_encode (m : Msg) (hs : m.wireSize < 65536) : suffixAt m.body.type (encode m) = m.suffix := by
  rw [suffixAt, contentOf_encode m hs, List.drop_left' (writeBody_length _)]

/-- nothing is asked of the fields -/
theorem decodes_encode (m : Msg) (ht : tlvCheck m.suffix.length m.suffix = .ok ()) (hs : m.wireSize < 65536) :
    Decodes (encode m) m.body.type where
  nibble := encode_type m
  bodyFits := by rw [declaredLen_encode m hs]; exact Nat.le_add_right _ _
  inBuffer := by rw [declaredLen_encode m hs, encode_length]; exact Nat.le_refl _
  tlv := by rw [suffixAt_encode m hs]; exact ht

theorem decode_encode (m : Msg) (hw : m.WF) : decode (encode m) = .ok m := by
  rw [(decodes_encode m hw.tlvOk hw.sizeLt).decode_eq, msgAt, suffixAt_encode m hw.sizeLt, contentOf_encode m hw.sizeLt,
    bodyAt_writeBody _ _ hw.bodyWF, encode, List.append_assoc, readHeader_writeHeader _ _ _ _ hw.headerWF]

theorem readTs_WF (c : List UInt8) (i : Nat) : (readTs c i).WF :=
  ⟨beVal_lt c i 6, beVal_lt c (i + 6) 4⟩

theorem readPortId_WF (c : List UInt8) (i : Nat) : (readPortId c i).WF :=
  ⟨beVal_lt c i 8, beVal_lt c (i + 8) 2⟩

theorem readHeader_WF (b : List UInt8) : (readHeader b).WF := by
  have hi : ∀ i, byteAt b i / 16 < 16 := fun i => Nat.div_lt_of_lt_mul (byteAt_lt b i)
  -- the fields written out first: matching a lemma against a projection of `readHeader b` is slow
  dsimp only [Header.WF, readHeader]
  exact ⟨digit_lt (hi 0) (byteAt_lt b 5), Nat.mod_lt _ (by decide), hi 1, byteAt_lt b 4,
    toSigned_range 64 _ (by decide) (beVal_lt b 8 8), readPortId_WF b 20, beVal_lt b 30 2,
    toSigned_range 8 _ (by decide) (byteAt_lt b 33)⟩

theorem bodyAt_WF (ty : MsgType) (c : List UInt8) : (bodyAt ty c).WF := by
  cases ty
  case sync | delayReq | pdelayReq | followUp => exact readTs_WF _ _
  case pdelayResp | delayResp | pdelayRespFu => exact ⟨readTs_WF _ _, readPortId_WF _ _⟩
  case signaling => exact readPortId_WF _ _
  case management => exact ⟨readPortId_WF _ _, byteAt_lt _ _, byteAt_lt _ _, normAction_le _⟩
  case announce =>
    dsimp only [bodyAt, Body.WF, AnnounceBody.WF]
    exact ⟨readTs_WF _ _, toSigned_range 16 _ (by decide) (beVal_lt _ 10 2), byteAt_lt _ _, byteAt_lt _ _,
      ⟨normAccuracy_lt _ (byteAt_lt _ _), normAccuracy_idem _⟩, beVal_lt _ 16 2, byteAt_lt _ _,
      beVal_lt _ 19 8, beVal_lt _ 27 2, byteAt_lt _ _⟩

theorem wf_of_decode {b : List UInt8} {m : Msg} (h : decode b = .ok m) : m.WF := by
  -- the size is the declared length, a 16-bit field
  have hs := wireSize_of_decode h
  have hd : declaredLen b < 256 ^ 2 := beVal_lt b 2 2
  obtain ⟨ty, d, rfl⟩ := decode_inv h
  exact ⟨readHeader_WF b, bodyAt_WF _ _, d.tlv, lt_of_eq_of_lt hs hd⟩

end Statime
