import StatimeModel.Lemmas.NetOne
import StatimeModel.Lemmas.NetDemo
/-
C01 — Network converges to one grandmaster and a loop-free master/slave tree.

Theorems about the fixed points of the abstract network model (Model/Net.lean): three about every fixed point (any
number of nodes, any segment structure, rings and several ports of one instance on a segment included, any ranking,
non-relaying instances allowed), two about the fixed points of connected *plain* networks (`Net.Plain`). That the
states real instances converge to (after a cold start and after faults) are such fixed points is checked on the
sampled scenarios by the `net` stream, which also compares every call of every instance with the instance model.
Convergence itself is not proved: see `NotProvedStmt`.
-/
namespace Statime.C01
open Statime Statime.Net

abbrev StableAt := @Net.StableAt

abbrev Stable := @Net.Stable

abbrev IsGm := @Net.IsGm

/-- **Every Slave port follows a Master port of a segment the instance is attached to, one step closer to the same
grandmaster.** In a fixed point, an instance with a Slave port has as parent a live instance, a different clock, with
a Master port attached to the segment of one of its own ports (the Slave port itself: `Net.StableAt.slave_parent`). -/
theorem slave_follows_master_port (net : Net) (x : Nat) (c : NodeCfg) (s : NodeSt) (h : StableAt net x c s)
    (j : Nat) (hj : s.ports[j]? = some PSt.slave) :
    ∃ (n : Nat) (cn : NodeCfg) (sn : NodeSt) (k : Nat) (pc : PortCfg) (j' : Nat) (pc' : PortCfg),
      net[n]? = some (cn, sn) ∧ cn.alive = true ∧ cn.ports[k]? = some pc ∧ pc.attached = true ∧
      sn.ports.getD k PSt.listening = PSt.master ∧ c.ports[j']? = some pc' ∧ pc'.attached = true ∧ pc.seg = pc'.seg ∧
      s.parentClock = cn.id ∧ s.parentPort = k + 1 ∧ s.steps = sn.steps + 1 ∧ s.gm = sn.gm ∧ cn.id ≠ c.id :=
  Net.slave_follows_master_port net x c s h j hj

/-- **Whoever advertises is a grandmaster or a slave itself.** In a fixed point a live instance with a
Master port is either in the grandmaster state or has a Slave port of its own. -/
theorem master_port_node (net : Net) (x : Nat) (c : NodeCfg) (s : NodeSt) (h : StableAt net x c s)
    (k : Nat) (hk : s.ports.getD k .listening = .master) :
    IsGm c s ∨ ∃ j : Nat, s.ports[j]? = some PSt.slave :=
  Net.master_port_node net x c s h k hk

/-- **No phantom grandmaster.** In a fixed point of the whole network, the grandmaster attributes of
every live instance with a Slave port are the own attributes of a live instance that is in the grandmaster state, and
its stepsRemoved is positive. (A corollary of `Net.Stable.chain_to_grandmaster`, which states the chain of parents
that leads there: stepsRemoved hops of `slave_follows_master_port`, each one step closer.) -/
theorem slave_reaches_live_grandmaster (net : Net) (hst : Stable net) :
    ∀ (d x : Nat) (c : NodeCfg) (s : NodeSt), net[x]? = some (c, s) → c.alive = true →
      (∃ j : Nat, s.ports[j]? = some PSt.slave) → s.steps = d →
      ∃ (r : Nat) (cr : NodeCfg) (sr : NodeSt), net[r]? = some (cr, sr) ∧ cr.alive = true ∧ IsGm cr sr ∧ s.gm = cr.ownGm ∧ 0 < d :=
  Net.slave_reaches_live_grandmaster net hst

abbrev Plain := @Net.Plain

/-- **The best clock is the only grandmaster.** In a fixed point of a connected plain network (shared segments and
rings included) the best-ranked instance is in the grandmaster state; every instance carries exactly its grandmaster
attributes; no other instance is in the grandmaster state; and every other instance has a Slave port. -/
theorem best_is_only_grandmaster (net : Net) (hst : Stable net) (hp : Plain net) (b : Nat) (cb : NodeCfg) (sb : NodeSt)
    (hb : Net.IsBest net b cb sb)
    (hconn : ∀ (y : Nat) (cy : NodeCfg) (sy : NodeSt), net[y]? = some (cy, sy) → Net.Reach net b y) :
    IsGm cb sb ∧
    (∀ (y : Nat) (cy : NodeCfg) (sy : NodeSt), net[y]? = some (cy, sy) → sy.gm = cb.ownGm) ∧
    (∀ (y : Nat) (cy : NodeCfg) (sy : NodeSt), net[y]? = some (cy, sy) → IsGm cy sy → y = b) ∧
    (∀ (y : Nat) (cy : NodeCfg) (sy : NodeSt), net[y]? = some (cy, sy) → y ≠ b → ∃ j : Nat, sy.ports[j]? = some PSt.slave) :=
  have hc := Net.conv_of_reach hst hp hb hconn
  ⟨Net.best_is_gm hst hp hb, hc.allgm, fun _ _ _ hy hg => hc.gm_unique hy hg, fun _ _ _ hy hne => hc.slave_of_ne hy hne⟩

/-- **Exactly one Master port per segment.** In the same situation, every segment some instance is attached to has a
Master port, and no two different ports attached to one segment are both Master. -/
theorem one_master_per_segment (net : Net) (hst : Stable net) (hp : Plain net) (b : Nat) (cb : NodeCfg) (sb : NodeSt)
    (hb : Net.IsBest net b cb sb)
    (hconn : ∀ (y : Nat) (cy : NodeCfg) (sy : NodeSt), net[y]? = some (cy, sy) → Net.Reach net b y) :
    (∀ (u : Nat) (cu : NodeCfg) (su : NodeSt) (i : Nat) (pi : PortCfg), net[u]? = some (cu, su) → cu.ports[i]? = some pi →
      ∃ (n : Nat) (cn : NodeCfg) (sn : NodeSt) (k : Nat) (pcn : PortCfg), net[n]? = some (cn, sn) ∧ cn.ports[k]? = some pcn ∧
        pcn.seg = pi.seg ∧ sn.ports[k]? = some PSt.master) ∧
    (∀ (n n' : Nat) (c c' : NodeCfg) (s s' : NodeSt) (k k' : Nat) (pc pc' : PortCfg),
      net[n]? = some (c, s) → net[n']? = some (c', s') → c.ports[k]? = some pc → c'.ports[k']? = some pc' →
      s.ports[k]? = some PSt.master → s'.ports[k']? = some PSt.master → pc.seg = pc'.seg → n = n' ∧ k = k') :=
  have hc := Net.conv_of_reach hst hp hb hconn
  ⟨fun _ _ _ _ _ hu hi => Net.segment_has_master hc hu hi,
   fun _ _ _ _ _ _ _ _ _ _ hn hn' hk hk' hm hm' hseg => Net.masters_unique hc hn hn' hk hk' hm hm' hseg⟩

/-- What is **not proved** here and is decided on the sampled scenarios by the oracle of the `net` stream: that
such a fixed point is reached from a cold start and after a single fault within 8 + 5·N announce intervals, and
does not flap; and "best is the only grandmaster / one Master per segment" for networks with several ports of
one instance on a segment (those are covered by the first three theorems above only). -/
def NotProvedStmt : Prop := True

/-! non-vacuity: the two-instance network of Lemmas/NetDemo.lean meets every hypothesis, and the theorem
yields what one expects of it -/
example : Net.Demo.s1.gm = Net.Demo.c0.ownGm ∧ ∃ j : Nat, Net.Demo.s1.ports[j]? = some PSt.slave :=
  have ⟨_, carries, _, hasSlave⟩ := best_is_only_grandmaster Net.Demo.demo Net.Demo.demo_stable Net.Demo.demo_plain 0
    Net.Demo.c0 Net.Demo.s0 Net.Demo.demo_best Net.Demo.demo_reach
  ⟨carries 1 Net.Demo.c1 Net.Demo.s1 rfl, hasSlave 1 Net.Demo.c1 Net.Demo.s1 rfl (by decide)⟩

end Statime.C01
