import StatimeModel.Lemmas.ServoCmds
import StatimeModel.Lemmas.TimeBasic
import StatimeModel.Generated.ServoConsts
/-
C02 — A slave port drives its clock to the master's time and keeps it there.

Convergence of the closed loop is a property of floating-point trajectories under random jitter; it
is not proved here. It is decided on sampled closed-loop histories by the `loop` stream (the real
filter disciplining a simulated clock; every history also compared bit for bit with this model).
What is proved, for every arithmetic `A` and every state, are the two structural facts the
property's last sentence and its direction of travel rest on: below the step threshold the servo slews and never
steps, and outside of the dead zone the steering target has the sign opposite to the estimated offset.
-/
namespace Statime.C02
open Statime Statime.Servo

/-- **Only slewed, never stepped.** While the filter's offset estimate is below the step threshold,
`steer` gives the clock no step: at most one command, a frequency, and it asks to be called again. -/
theorem no_step_below_threshold (A : Arith) (k k' : Kalman) (clk : ClockIn) (cs : List Cmd) (u : Upd)
    (hlt : f64Lt (f64Abs k.run.offset) (durSeconds A k.cfg.thr) = true)
    (h : k.steer A clk = some (k', cs, u)) :
    (∀ c ∈ cs, ∃ f ok, c = Cmd.freq f ok) ∧ cs.length ≤ 1 ∧ u.nextUpdate = true := by
  rcases steer_some h with ⟨_, hu, t, hcf⟩ | ⟨hnot, _⟩
  · obtain ⟨_, ⟨_, _, rfl⟩ | ⟨cur, ok, _, rfl⟩⟩ := changeFrequency_some hcf
    · exact ⟨(fun _ h => nomatch h), Nat.zero_le _, hu⟩
    · exact ⟨(fun _ h => ⟨_, _, List.mem_singleton.1 h⟩), Nat.le_refl _, hu⟩
  · rw [hlt] at hnot
    cases hnot

/-- and conversely a step is only ever given when the estimate is not below the threshold -/
theorem step_only_at_threshold (A : Arith) (k k' : Kalman) (clk : ClockIn) (cs : List Cmd) (u : Upd)
    (h : k.steer A clk = some (k', cs, u)) (d : Int) (ok : Bool) (hd : Cmd.step d ok ∈ cs) :
    f64Lt (f64Abs k.run.offset) (durSeconds A k.cfg.thr) = false := by
  cases hlt : f64Lt (f64Abs k.run.offset) (durSeconds A k.cfg.thr)
  · rfl
  · obtain ⟨h1, _, _⟩ := no_step_below_threshold A k k' clk cs u hlt h
    obtain ⟨f, ok', e⟩ := h1 _ hd
    cases e

/-- the IEEE sign rule for products and quotients (whenever the result is a number) -/
structure SignLaws (A : Arith) : Prop where
  mul_sign : ∀ a b, f64IsNaN (A.mul a b) = false → f64Sign (A.mul a b) = (f64Sign a + f64Sign b) % 2
  div_sign : ∀ a b, f64IsNaN (A.div a b) = false → f64Sign (A.div a b) = (f64Sign a + f64Sign b) % 2

/-- the slew target `steer` computes from an offset estimate `e` with uncertainty `unc` -/
def slewTarget (A : Arith) (c : Cfg) (e unc : Nat) : Option Nat :=
  let desired := A.mul (f64Signum e) (f64Max (A.sub (f64Abs e) (A.mul unc c.dz)) cZero)
  f64Clamp (A.div (A.mul (f64Neg desired) c1e6) (durSeconds A c.st)) (f64Neg c.ms) c.ms

theorem steer_slews_to_target (A : Arith) (k : Kalman) (clk : ClockIn)
    (hlt : f64Lt (f64Abs k.run.offset) (durSeconds A k.cfg.thr) = true) :
    k.steer A clk =
      (slewTarget A k.cfg k.run.offset (k.run.offsetUnc A k.cfg)).bind fun target =>
        (k.changeFrequency A target clk).bind fun (k', cmds) =>
          if coreDurationOk (durSeconds A k.cfg.st) then
            (durFromSeconds k'.run.meanDelay).map fun md => (k', cmds, { nextUpdate := true, meanDelay := some md })
          else none := by
  unfold Kalman.steer slewTarget
  simp only [hlt, if_true]

/-- **Negative feedback.** Outside of the dead zone (the excess `|e| - unc·deadzone` is a positive
number), with a positive steer time and a positive maximum steer, the slew target is a number whose
sign is opposite to that of the offset estimate, or zero — for every arithmetic with the IEEE sign rule. (The proof
always gives the first alternative, the opposite sign bit, and does not use `ht`.) -/
theorem steering_opposes_offset (A : Arith) (L : SignLaws A) (c : Cfg) (e unc t : Nat)
    (he : f64IsNaN e = false)
    (hex : f64Lt cZero (A.sub (f64Abs e) (A.mul unc c.dz)) = true)
    (hst : f64Sign (durSeconds A c.st) = 0) (hms : f64Sign c.ms = 0)
    (h : slewTarget A c e unc = some t) (ht : f64IsNaN t = false)
    (hraw : f64IsNaN (A.div (A.mul (f64Neg (A.mul (f64Signum e) (A.sub (f64Abs e) (A.mul unc c.dz)))) c1e6) (durSeconds A c.st)) = false)
    (hm1 : f64IsNaN (A.mul (f64Neg (A.mul (f64Signum e) (A.sub (f64Abs e) (A.mul unc c.dz)))) c1e6) = false)
    (hm0 : f64IsNaN (A.mul (f64Signum e) (A.sub (f64Abs e) (A.mul unc c.dz))) = false) :
    f64Sign t = 1 - f64Sign e ∨ f64Key t = 0 := by
  unfold slewTarget at h
  generalize A.sub (f64Abs e) (A.mul unc c.dz) = x at *
  -- the max returns the positive excess itself
  rw [f64Max_of_lt hex] at h
  have kx : 0 < f64Key x := f64Key_cZero ▸ f64Lt_key hex
  -- signs along the expression: adding a sign bit 0 changes nothing
  have s1 : f64Sign (A.mul (f64Signum e) x) = f64Sign e := by
    have sx : f64Sign x = 0 := ((f64Key_sign x).resolve_right fun h => Int.not_le.2 kx h.2).1
    rw [L.mul_sign _ _ hm0, f64Signum_sign e he, sx]
    exact Nat.mod_eq_of_lt (Nat.mod_lt _ Nat.two_pos)
  have s2 : f64Sign (f64Neg (A.mul (f64Signum e) x)) = 1 - f64Sign e := by rw [f64Neg_sign, s1]
  have s4 : f64Sign (A.div (A.mul (f64Neg (A.mul (f64Signum e) x)) c1e6) (durSeconds A c.st)) = 1 - f64Sign e := by
    rw [L.div_sign _ _ hraw, L.mul_sign _ _ hm1, s2, hst, show f64Sign c1e6 = 0 by decide, Nat.add_zero,
      Nat.add_zero, Nat.mod_mod]
    exact Nat.mod_eq_of_lt (Nat.lt_of_le_of_lt (Nat.sub_le 1 _) (by decide))
  have hlo : f64Sign (f64Neg c.ms) = 1 := by rw [f64Neg_sign, hms]
  exact .inl ((f64Clamp_sign h hlo hms).trans s4)

theorem closeInTime_spec (a b : Nat) (thr : Int) (h : closeInTime a b thr = some true) :
    ((a : Int) - (b : Int) < thr) ∧ ((b : Int) - (a : Int) < thr) := by
  unfold closeInTime at h
  obtain ⟨d, hd, h⟩ := Option.bind_eq_some_iff.1 h
  obtain ⟨x, hx, h⟩ := Option.map_eq_some_iff.1 h
  have := of_decide_eq_true h
  have := durAbs_val hx
  have := timeSub_val hd
  omega

/-- The hypothesis is the body of `Est.absorbSync` and of `Est.absorbDelay` (the first two `if let` blocks of
`absorb_measurement`, kalman.rs:172), copied, with what differs between the two as variables; `unfold` in the two
theorems below ties it back. `hins`: a sample was inserted (every other outcome leaves the write index alone). -/
theorem absorb_inserts_only_close {e e0 e' : Est} {raw : Option Int} {last : Option (Nat × Int)} {t : Nat} {thr : Int}
    {x : Int → Nat → Int → Option Int} {F : Int → Nat → Int → Int → Nat} {keep keep' : Int → Est}
    (h : (match raw with
      | none => some e
      | some v =>
        match last with
        | some (time, w) =>
          (closeInTime t time thr).bind fun close =>
            if close then (x v time w).map fun dt => e0.insert (F v time w dt) else some (keep v)
        | none => some (keep' v)) = some e')
    (hk : ∀ v, (keep v).nextIdx = e.nextIdx) (hk' : ∀ v, (keep' v).nextIdx = e.nextIdx)
    (hins : e'.nextIdx ≠ e.nextIdx) :
    ∃ time w v, last = some (time, w) ∧ raw = some v ∧ ((t : Int) - time < thr) ∧ ((time : Int) - t < thr) := by
  cases raw with
  | none => exact absurd (Option.some.inj h ▸ rfl) hins
  | some v =>
    cases last with
    | none => exact absurd (Option.some.inj h ▸ hk' v) hins
    | some p =>
      obtain ⟨close, hc, h⟩ := Option.bind_eq_some_iff.1 h
      cases close with
      | true => exact ⟨_, _, _, rfl, rfl, closeInTime_spec _ _ _ hc⟩
      | false => exact absurd (Option.some.inj h ▸ hk v) hins

/-- **The noise estimator only pairs measurements that are close in time.** A delay measurement adds a sample to
the estimator's window only together with a stored Sync measurement whose event time differs from its own by
less than `estimate_threshold`, in either direction (the test is on the absolute difference: a measurement
stamped before a backward step of the clock is not paired with one taken after it merely because the
difference is negative). -/
theorem noise_sample_needs_close_pair_delay (A : Arith) (e e' : Est) (m : Meas) (freq : Nat) (c : Cfg)
    (h : e.absorbDelay A m freq c = some e') (hins : e'.nextIdx ≠ e.nextIdx) :
    ∃ time so dof, e.lastSync = some (time, so) ∧ m.rawDelay = some dof ∧
      ((m.eventTime : Int) - time < c.et) ∧ ((time : Int) - m.eventTime < c.et) := by
  unfold Est.absorbDelay at h
  exact absorb_inserts_only_close h (fun _ => rfl) (fun _ => rfl) hins

theorem noise_sample_needs_close_pair_sync (A : Arith) (e e' : Est) (m : Meas) (freq : Nat) (c : Cfg)
    (h : e.absorbSync A m freq c = some e') (hins : e'.nextIdx ≠ e.nextIdx) :
    ∃ time dof so, e.lastDelay = some (time, dof) ∧ m.rawSync = some so ∧
      ((m.eventTime : Int) - time < c.et) ∧ ((time : Int) - m.eventTime < c.et) := by
  unfold Est.absorbSync at h
  exact absorb_inserts_only_close h (fun _ => rfl) (fun _ => rfl) hins

/-! tie to the source: how the three kinds of measurement relate to the estimator's state (offset, frequency, delay) -
the rows `MEASUREMENT_SYNC`, `MEASUREMENT_DELAY`, `MEASUREMENT_PEER_DELAY` of kalman.rs as extracted on this run, and
that each `absorb_*` function uses its own row. A Sync offset is offset + delay, a Delay_Resp offset is offset − delay,
a peer delay is the delay itself: with any other sign the servo settles the clock a multiple of the path delay away
from the master. -/
theorem measurement_rows_match_source :
    Generated.measurementRows = some (hSync ++ hDelay ++ hPeer) ∧ Generated.measurementRowUse = true := by
  decide

end Statime.C02
