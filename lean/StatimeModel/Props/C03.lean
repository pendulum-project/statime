import StatimeModel.Lemmas.PortStep
import StatimeModel.Lemmas.Bounded
import StatimeModel.Lemmas.BmcaRun
/-
C03 — No input, timing or call order makes the library panic or overflow.

The model marks every panic site of the modelled code with `Except.error`: `.overflow` (checked arithmetic: a
panic in debug builds, a silent wrap in release builds), `.assertDbg` (debug assertion), `.always` (a panic in
every build). The slave-side handlers fail only by overflow (`OnlyOv`), a BMCA run only by overflow or a debug
assertion; on bounded state (`Bnd`, Lemmas/Bounded.lean) and bounded inputs no port-level call fails, and the state
stays bounded (`Good`, `Good3`).
-/
namespace Statime.C03
open Statime

/-- definitionally `FailsOnly (· = .overflow) x` -/
def OnlyOv {α : Type} (x : R α) : Prop := ∀ e, x = .error e → e = .overflow

theorem OnlyOv.ok {α : Type} (v : α) : OnlyOv (.ok v : R α) := FailsOnly.ok v

theorem OnlyOv.orOv {α β : Type} (x : Option α) (f : α → R β) (h : ∀ a, OnlyOv (f a)) : OnlyOv (orOv x f) := by
  intro e he
  cases x with
  | none => simp only [Statime.orOv, Except.error.injEq] at he; exact he.symm
  | some a => exact h a e he

theorem OnlyOv.liftOv {α : Type} (x : Option α) : OnlyOv (liftOv x) := by
  intro e he
  cases x with
  | none => simp only [Statime.liftOv, Except.error.injEq] at he; exact he.symm
  | some a => cases he

theorem OnlyOv.map {α β : Type} (x : R α) (g : α → β) (h : OnlyOv x) : OnlyOv (x.map g) := by
  intro e he
  cases x with
  | error e' => simp only [Except.map, Except.error.injEq] at he; rw [← he]; exact h e' rfl
  | ok a => cases he

theorem OnlyOv.bind {α β : Type} (x : R α) (f : α → R β) (h : OnlyOv x) (hf : ∀ a, OnlyOv (f a)) : OnlyOv (x >>= f) :=
  FailsOnly.bind h hf

theorem timeMeasurement_onlyOv (p : Port) : OnlyOv p.timeMeasurement := by
  have h := timeMeasurement_cases p
  generalize p.timeMeasurement = x at h
  cases h with
  | nothing | took => exact OnlyOv.ok _
  | overflow => exact fun e he => by cases he; rfl

theorem onlyOv_of_ends {p : Port} {Q : Port → Prop} {E F : Prop} {x : R (Port × List Out)} (hx : Ends p Q E F x) :
    OnlyOv x := by
  cases hx with
  | stay | store | fault => exact OnlyOv.ok _
  | measure => exact timeMeasurement_onlyOv _
  | ov => exact fun e he => by cases he; rfl

theorem handleSync_onlyOv (p : Port) (h : Header) (o : WireTs) (ts : Nat) : OnlyOv (p.handleSync h o ts) :=
  onlyOv_of_ends (handleSync_ends p h o ts)

theorem handleFollowUp_onlyOv (p : Port) (h : Header) (o : WireTs) : OnlyOv (p.handleFollowUp h o) :=
  onlyOv_of_ends (handleFollowUp_ends p h o)

theorem handleDelayResp_onlyOv (p : Port) (h : Header) (rx : WireTs) (req : PortId) : OnlyOv (p.handleDelayResp h rx req) :=
  onlyOv_of_ends (handleDelayResp_ends p h rx req)

theorem timeToWire_total (ts : Nat) (h : ts < BH) : ∃ w, timeToWire ts = some w :=
  ⟨_, timeToWire_eq_some_iff.2 ⟨Nat.div_lt_of_lt_mul (Nat.lt_trans h (by decide)), rfl⟩⟩

theorem bnd_of_fields (p p' : Port) (h : Bnd p) (h1 : p'.st = p.st) (h2 : p'.peer = p.peer) (h3 : p'.meanDelay = p.meanDelay)
    (h4 : p'.cfg = p.cfg) : Bnd p' := by
  unfold Bnd; rw [h1, h2, h3, h4]; exact h

/-- `Good` for the calls that also return the instance state -/
def Good3 (x : R (Port × InstState × List Out)) : Prop := ∃ p' s' o, x = .ok (p', s', o) ∧ Bnd p'

theorem good3_of_map (x : R (Port × List Out)) (s : InstState) (h : Good x) :
    Good3 (x.map (fun (p, o) => (p, s, o))) := by
  obtain ⟨p', o, hx, hb⟩ := h
  rw [hx]; exact ⟨p', s, o, rfl, hb⟩

theorem announceUpdate_total (p : Port) (s : InstState) (m : Msg) (a : Ann) : ∃ s1 l, p.announceUpdate s m a = .ok (s1, l) := by
  unfold Port.announceUpdate
  split
  · split
    · exact ⟨_, _, rfl⟩
    · rw [applyParent_eq]
      cases pathTlvOf s m <;> exact ⟨_, _, rfl⟩
  · exact ⟨_, _, rfl⟩

theorem announceRegister_bnd (p : Port) (m : Msg) (a : Ann) (hb : Bnd p) : Bnd (p.announceRegister m a).1 := by
  have h := announceRegister_heard p m a
  refine ⟨?_, by rw [h.rest]; exact hb.peer, by rw [h.rest]; exact hb.meanDelay, by rw [h.rest]; exact hb.asym⟩
  rcases h.st with e | e <;> rw [e]
  · exact hb.st
  · trivial

theorem handleAnnounce_good (p : Port) (s : InstState) (m : Msg) (ab : AnnounceBody) (hb : Bnd p) :
    Good3 (p.handleAnnounce s m ab) := by
  unfold Port.handleAnnounce
  obtain ⟨s1, l, hu⟩ := announceUpdate_total p s m ⟨m.header, ab⟩
  rw [hu]
  simp only
  split
  · exact ⟨_, _, _, rfl, hb⟩
  · exact ⟨_, _, _, rfl, announceRegister_bnd p m _ hb⟩

/-- a reply is built around the wire form of a timestamp, and a timestamp below 2^63 ns has one (the argument of `Good`
is what the replying handlers unfold to, as in `PortStep.reply`) -/
theorem reply_good {p : Port} {ts : Nat} {f : WireTs → Msg} {k : Msg → List Out} (hb : Bnd p) (hts : ts < BH) :
    Good ((liftOv (timeToWire ts) >>= fun w => .ok (f w)) >>= fun m => .ok (p, k m)) := by
  obtain ⟨w, hw⟩ := timeToWire_total ts hts
  rw [hw]
  exact good_ok _ _ hb

theorem handleDelayReq_good (p : Port) (hd : Header) (ts : Nat) (hb : Bnd p) (hts : ts < BH) : Good (p.handleDelayReq hd ts) := by
  by_cases hm : p.st = .master
  · rw [handleDelayReq_master hd ts hm]; exact reply_good hb hts
  · rw [handleDelayReq_other hd ts hm]; exact good_ok _ _ hb

theorem handlePdelayReq_good (p : Port) (s : InstState) (hd : Header) (ts : Nat) (hb : Bnd p) (hts : ts < BH) :
    Good (p.handlePdelayReq s hd ts) :=
  reply_good hb hts

theorem received_good {p : Port} {s : InstState} {pm : Option Msg} {ts : Option Nat} {x : R (Port × InstState × List Out)}
    (h : Received p s pm ts x) (hb : Bnd p) (hw : ∀ m, pm = some m → m.WF) (hts : ∀ t, ts = some t → t < BH) :
    Good3 x := by
  cases h with
  | dropped | ignored => exact ⟨_, _, _, rfl, hb⟩
  | announce => exact handleAnnounce_good p s _ _ hb
  | @handler m _ _ h =>
    have hw := hw m rfl
    have hc : inI64 m.header.correction = true := (inI64_iff _).2 hw.headerWF.corr
    refine good3_of_map _ s ?_
    cases h with
    | followUp hbody => exact handleFollowUp_good p _ _ hb (hbody ▸ hw.bodyWF : (Body.followUp _).WF) hc
    | delayResp hbody => exact handleDelayResp_good p _ _ _ hb (hbody ▸ hw.bodyWF : (Body.delayResp _ _).WF).1 hc
    | pdelayRespFu hbody => exact handlePdelayRespFu_good p _ _ _ hb (hbody ▸ hw.bodyWF : (Body.pdelayRespFu _ _).WF).1 hc
    | sync hbody => exact handleSync_good p _ _ _ hb (hts _ rfl) (hbody ▸ hw.bodyWF : (Body.sync _).WF) hc
    | delayReq => exact handleDelayReq_good p _ _ hb (hts _ rfl)
    | pdelayReq => exact handlePdelayReq_good p s _ _ hb (hts _ rfl)
    | pdelayResp hbody =>
      exact handlePdelayResp_good p _ _ _ _ hb (hts _ rfl) (hbody ▸ hw.bodyWF : (Body.pdelayResp _ _).WF).1 hc

/-- **Frames on the general interface**: whatever the bytes (up to 65535 of them), the call returns normally -/
theorem general_receive_total (p : Port) (s : InstState) (data : List UInt8) (hb : Bnd p) (hl : data.length < 65536) :
    Good3 (p.handleGeneralReceive s data) :=
  received_good (handleGeneralReceive_cases p s data) hb
    (fun m hm => wf_of_decode (parseAndFilter_spec s data m hm).2.1) (fun _ e => nomatch e)

/-- **Frames on the event interface**: whatever the bytes, for every receive timestamp below 2^63 ns, the call returns normally -/
theorem event_receive_total (p : Port) (s : InstState) (data : List UInt8) (ts : Nat) (hb : Bnd p)
    (hl : data.length < 65536) (hts : ts < BH) : Good3 (p.handleEventReceive s data ts) :=
  received_good (handleEventReceive_cases p s data ts) hb
    (fun m hm => wf_of_decode (parseAndFilter_spec s data m hm).2.1) (fun _ e => Option.some.inj e ▸ hts)

/-- **Transmit timestamps**: every reported timestamp below 2^63 ns, for any context (current, stale, invented) -/
theorem send_timestamp_total (p : Port) (s : InstState) (ctx : TsCtx) (ts : Nat) (hb : Bnd p) (hts : ts < BH) :
    Good (p.handleSendTimestamp s ctx ts) := by
  unfold Port.handleSendTimestamp
  split
  · next id =>
    by_cases hm : p.st = .master
    · rw [handleSyncTs_master s id ts hm]; exact reply_good hb hts
    · rw [handleSyncTs_other s id ts hm]; exact good_ok _ _ hb
  · exact handleDelayTs_good p _ ts hb hts
  · exact handlePdelayTs_good p _ ts hb hts
  · exact reply_good hb hts

/-- **Timers**: every timer expiration, in every state, with any queue of forwarded TLVs, returns normally -/
theorem timers_total (p : Port) (s : InstState) (q : List FwdTlv) (loose : Bool) (hb : Bnd p) :
    (∃ p' o q', p.sendAnnounce s q loose = .ok (p', o, q') ∧ Bnd p') ∧ Good (p.sendSync s) ∧ Good (p.sendDelayRequest s) ∧
    Bnd (p.handleReceiptTimer s).1 := by
  refine ⟨?_, ?_, ?_, ?_⟩
  · by_cases hm : p.st = .master
    · rw [sendAnnounce_master s q loose hm]; exact ⟨_, _, _, rfl, bnd_of_fields p _ hb rfl rfl rfl rfl⟩
    · rw [sendAnnounce_other s q loose hm]; exact ⟨_, _, _, rfl, hb⟩
  · by_cases hm : p.st = .master
    · rw [sendSync_master s hm]; exact good_ok _ _ (bnd_of_fields p _ hb rfl rfl rfl rfl)
    · rw [sendSync_other s hm]; exact good_ok _ _ hb
  · cases hp : p.cfg.p2p with
    | true =>
      rw [sendDelayRequest_p2p s hp]
      exact good_ok _ _ (bnd_withPeer p _ hb ⟨optLt_none _, optLt_none _, optLt_none _, optLt_none _⟩)
    | false =>
      rcases p.st.slave_or_not with ⟨remote, sy, dl, last, hst⟩ | hs
      · obtain ⟨hsy, _, hlast⟩ := hb.slave hst
        rw [sendDelayRequest_slave s hp hst]
        exact good_ok _ _ (bnd_withSlave p _ _ _ _ hb hsy ⟨optLt_none _, optLt_none _⟩ hlast)
      · rw [sendDelayRequest_idle s hp hs]; exact good_ok _ _ hb
  · obtain ⟨st, hst, e⟩ := handleReceiptTimer_fst p s
    rw [e]
    refine bnd_setState p st hb ?_
    rcases hst with rfl | hst
    · exact hb.st
    · exact stBnd_of_notSlave hst

theorem new_port_bnd (cfg : PortCfg) (id : PortId) (p : Port) (ha : absLt cfg.delayAsymmetry BA) (h : Port.new cfg id = .ok p) :
    Bnd p := by
  unfold Port.new at h
  obtain ⟨ai, _, h2⟩ := orOv_ok _ _ _ h
  simp only [Except.ok.injEq] at h2
  rw [← h2]
  exact ⟨trivial, trivial, (by intro m e; cases e), ha⟩

theorem stBnd_fresh (st st' : PState) (h : FreshOrSame st st') (hb : StBnd st) : StBnd st' := by
  rcases h with h | h | ⟨r, h⟩
  · rw [h]; exact hb
  · exact stBnd_of_notSlave h
  · rw [h]; exact ⟨trivial, trivial, by intro x e; cases e⟩

def AllBnd (i : Inst) : Prop := ∀ (j : Nat) (p : Port), i.ports[j]? = some p → Bnd p

/-- **A BMCA run keeps every port bounded**: it touches no stored timestamp; a port it makes Slave starts with
nothing measured -/
theorem bmca_keeps_bnd (i i' : Inst) (order : List Nat) (obs : Obs) (hnd : order.Nodup) (hb : AllBnd i)
    (h : i.bmca order = .ok (i', obs)) : AllBnd i' := by
  obtain ⟨ebest, lbs, pend, run⟩ := bmca_ran h
  intro j p' hp'
  obtain ⟨p, hp⟩ := run.back hp'
  have hold := hb j p hp
  have hf := run.fixed hp hp'
  refine ⟨stBnd_fresh _ _ (run.fresh hnd hp hp') hold.st, ?_, ?_, ?_⟩
  · rw [hf.peer]
    exact hold.peer
  · rw [hf.meanDelay]
    exact hold.meanDelay
  · rw [hf.cfg]
    exact hold.asym

theorem stepAnnounceAge_onlyOv (p : Port) (step : Int) : OnlyOv (p.stepAnnounceAge step) := by
  have hm : OnlyOv (stepMultiport p.multiportDisable step p.cfg.announceLog) := by
    unfold stepMultiport
    split
    · exact OnlyOv.ok _
    · exact OnlyOv.orOv _ _ fun _ => OnlyOv.orOv _ _ fun _ => OnlyOv.ok _
  intro e h
  unfold Port.stepAnnounceAge at h
  split at h
  · next hs => cases h; exact hm e hs
  · cases h

/-- The failure points of a BMCA run (`bmca_fails`, `setRecommendedState_error`): the host passes the wrong number of
ports (`PtpInstance::bmca` asserts it); the conversion of the BMCA interval to a `Duration` (a branch the model has and
never takes: the interval is clamped at 2^62 s, `durFromLogInterval` overflows from 66 on); an `S1` decision for an
Announce with stepsRemoved 65535 or for a master-only port (C06 qualifies only stepsRemoved < 255, C08 never issues S1
to a master-only port); the age of a multiport-disable mark or a port's announce interval that no `Duration` can hold
(`stepAnnounceAge_onlyOv`). -/
theorem bmca_failure_kinds (i : Inst) (order : List Nat) (e : Panic) (h : i.bmca order = .error e) :
    e = .overflow ∨ e = .assertDbg :=
  bmca_fails (P := fun e => e = .overflow ∨ e = .assertDbg) (.inr rfl) (.inl rfl)
    (fun _ _ _ _ he => (setRecommendedState_error he).symm) (fun step p _ he => .inl (stepAnnounceAge_onlyOv p step _ he)) e h

end Statime.C03
