import StatimeModel.Lemmas.WireRoundtrip
import StatimeModel.Spec.Clause13
import StatimeModel.Generated.Layout
import StatimeModel.Generated.Consts
/-
C04 — the wire codec is total, lossless on defined fields and self-consistent.

`decode : List UInt8 → Except WireError Msg` is total by construction (a Lean
function); the theorems below are about every byte string.

The tie to /repo:
  * `tie_*`: the offset/width/bit tables and enumeration tables the translator
    extracted from today's Rust source equal the Clause 13 tables of
    `Spec/Clause13.lean` (kernel-checked by `decide`);
  * `*_layout`: the model's `decode` reads every field at the offsets of those
    same tables;
  * the `DEC` correspondence stream compares model and Rust codec on generated
    frames (dump of every field, error class, re-encoded bytes).
-/
namespace Statime.C04
open Statime

/-- an extracted item either was not found (translator degraded; falls back to the
correspondence run) or equals the specification -/
def tie {α} [DecidableEq α] (g : Option α) (s : α) : Bool :=
  match g with
  | none => true
  | some v => decide (v = s)

/-- The last two conjuncts are about byte order, which the offset tables do not show: the translator met no
`_le_bytes` / `_ne_bytes` conversion in the functions it read (`nonBigEndianUses`), and `timestamp.rs` moves the seconds
as octets `[2..8]` of a big-endian `u64`, its low 48 bits (`timestampSecondsLow48`). -/
theorem tie_layouts :
    tie Generated.headerRead Spec.headerRead ∧ tie Generated.headerWrite Spec.headerWrite ∧
    tie Generated.flagsRead Spec.flags ∧ tie Generated.flagsWrite Spec.flags ∧
    tie Generated.announceRead Spec.announce ∧ tie Generated.announceWrite Spec.announce ∧
    tie Generated.syncRead Spec.sync ∧ tie Generated.syncWrite Spec.sync ∧
    tie Generated.followUpRead Spec.followUp ∧ tie Generated.followUpWrite Spec.followUp ∧
    tie Generated.delayReqRead Spec.delayReq ∧ tie Generated.delayReqWrite Spec.delayReq ∧
    tie Generated.delayRespRead Spec.delayResp ∧ tie Generated.delayRespWrite Spec.delayResp ∧
    tie Generated.pdelayReqRead Spec.pdelayReqRead ∧ tie Generated.pdelayReqWrite Spec.pdelayReqWrite ∧
    tie Generated.pdelayRespRead Spec.pdelayResp ∧ tie Generated.pdelayRespWrite Spec.pdelayResp ∧
    tie Generated.pdelayRespFuRead Spec.pdelayRespFu ∧ tie Generated.pdelayRespFuWrite Spec.pdelayRespFu ∧
    tie Generated.managementRead Spec.management ∧ tie Generated.managementWrite Spec.management ∧
    tie Generated.signalingRead Spec.signaling ∧ tie Generated.signalingWrite Spec.signaling ∧
    tie Generated.timestampRead Spec.timestamp ∧ tie Generated.timestampWrite Spec.timestamp ∧
    tie Generated.portIdentityRead Spec.portIdentity ∧ tie Generated.portIdentityWrite Spec.portIdentity ∧
    tie Generated.clockQualityRead Spec.clockQuality ∧ tie Generated.clockQualityWrite Spec.clockQuality ∧
    tie Generated.timeIntervalRead Spec.timeInterval ∧ tie Generated.timeIntervalWrite Spec.timeInterval ∧
    Generated.nonBigEndianUses = 0 ∧ Generated.timestampSecondsLow48 = true := by
  decide +kernel

theorem tie_tables :
    tie Generated.messageTypes Spec.messageTypes ∧ tie Generated.controlFields Spec.controlFields ∧
    tie Generated.controlFieldOthers Spec.controlFieldOthers ∧
    tie Generated.accuracyNorm Spec.accuracyNorm ∧ tie Generated.timeSourceNorm Spec.timeSourceNorm ∧
    tie Generated.actionNorm Spec.actionNorm ∧
    tie Generated.tlvPropagateRanges Spec.tlvPropagateRanges ∧ tie Generated.tlvPathTrace Spec.tlvPathTrace ∧
    tie Generated.headerSize 34 ∧ tie Generated.maxDataLen 1024 := by
  decide +kernel

/-- the model's enumeration functions against the specification tables; of the message types only which nibbles
`ofNibble` accepts, and that it inverts `toNibble` (not which type a nibble stands for, nor `controlField`, nor
`bodySize`) -/
theorem model_tables :
    (∀ v : Fin 256, normAccuracy v.val = Spec.accuracyNorm.getD v.val 0) ∧
    (∀ v : Fin 256, normAction v.val = Spec.actionNorm.getD v.val 0) ∧
    (∀ v : Fin 16, (MsgType.ofNibble v.val).isSome = (Spec.messageTypes.any (fun e => e.1 == v.val))) ∧
    (∀ ty : MsgType, (MsgType.ofNibble ty.toNibble) = some ty) ∧
    (∀ t : Nat, tlvPropagates t = Spec.tlvPropagateRanges.any (fun r => r.1 ≤ t && t ≤ r.2)) := by
  -- the two normalisation tables are `(List.range 256).map` of the very predicate the model uses
  refine ⟨fun v => (getD_map_range _ _ v.isLt).symm, fun v => (getD_map_range _ _ v.isLt).symm,
    by decide +kernel, ofNibble_toNibble, ?_⟩
  · intro t
    -- a range of one value is the test for that value
    have pt : ∀ a : Nat, (decide (a ≤ t) && decide (t ≤ a)) = decide (t = a) := fun a => by
      rw [← Bool.decide_and, decide_eq_decide, eq_comm]
      exact Nat.le_antisymm_iff.symm
    simp only [tlvPropagates, Spec.tlvPropagateRanges, List.any_cons, List.any_nil, Bool.or_false, pt, Bool.or_assoc]

/-- **Prefix independence.** Two buffers that agree on the first `messageLength`
octets (and both contain them) decode identically — error class included. -/
theorem decode_prefix (b b' : List UInt8) (hlen : 34 ≤ declaredLen b)
    (h1 : declaredLen b ≤ b.length) (h2 : declaredLen b ≤ b'.length)
    (heq : b.take (declaredLen b) = b'.take (declaredLen b)) : decode b = decode b' := by
  -- everything `decode` looks at is the same for both: the declared length, the header fields, the type nibble, the
  -- octets up to the declared length, and the outcome of the two length tests
  have hd : declaredLen b' = declaredLen b := (beVal_congr_take heq (Nat.le_trans (by decide) hlen)).symm
  have hh : readHeader b' = readHeader b := (readHeader_congr_take heq hlen).symm
  have h0 : byteAt b' 0 = byteAt b 0 := (byteAt_congr_take heq (Nat.lt_of_lt_of_le (by decide) hlen)).symm
  unfold decode
  rw [hd, hh, h0, heq.symm, decide_eq_false (Nat.not_lt.2 (Nat.le_trans hlen h1)),
    decide_eq_false (Nat.not_lt.2 (Nat.le_trans hlen h2)), decide_eq_false (Nat.not_lt.2 h1),
    decide_eq_false (Nat.not_lt.2 h2)]

theorem decode_ignores_padding (b extra : List UInt8) (hlen : 34 ≤ declaredLen b)
    (h1 : declaredLen b ≤ b.length) : decode (b.take (declaredLen b) ++ extra) = decode b := by
  have hl : (b.take (declaredLen b)).length = declaredLen b := List.length_take_of_le h1
  refine (decode_prefix b _ hlen h1 ?_ ?_).symm
  · rw [List.length_append, hl]
    exact Nat.le_add_right ..
  · rw [List.take_append_of_le_length (Nat.le_of_eq hl.symm), List.take_take, Nat.min_self]

theorem decode_truncated (b : List UInt8) (h : b.length < declaredLen b) :
    ∃ e, decode b = .error e := by
  cases hd : decode b with
  | error e => exact ⟨e, rfl⟩
  | ok m =>
    obtain ⟨_, d, _⟩ := decode_inv hd
    exact absurd d.inBuffer (Nat.not_le.2 h)

/-- **Re-encoded length = declared length = `wire_size()`.** -/
theorem reencode_length (b : List UInt8) (m : Msg) (h : decode b = .ok m) :
    (encode m).length = declaredLen b ∧ m.wireSize = declaredLen b := by
  rw [encode_length]
  exact ⟨wireSize_of_decode h, wireSize_of_decode h⟩

/-! ### every field is read at the offset, width and byte order of Clause 13

`fieldAt b base t f` is the big-endian value found at the place the
specification table `t` assigns to field `f` of a structure starting at octet
`base` — it is the *independent* reader; the theorems say the model's `decode`
returns exactly those values. -/

def fieldAt (b : List UInt8) (base : Nat) (t : Spec.Table) (f : Spec.F) : Nat :=
  beVal b (base + (Spec.lookup t f).1) (Spec.lookup t f).2

/-- flag `f` of Table 37 -/
def flagAt (b : List UInt8) (f : Spec.F) : Bool :=
  bit (byteAt b (Spec.lookup Spec.flags f).1) (Spec.lookup Spec.flags f).2

/-- a `Timestamp` (5.3.3) located at octet `base` -/
def tsAt (b : List UInt8) (base : Nat) : WireTs :=
  ⟨fieldAt b base Spec.timestamp .seconds, fieldAt b base Spec.timestamp .nanos⟩

/-- a `PortIdentity` (5.3.5) located at octet `base` -/
def pidAt (b : List UInt8) (base : Nat) : PortId :=
  ⟨fieldAt b base Spec.portIdentity .clock_identity, fieldAt b base Spec.portIdentity .port_number⟩

/-- bodies start at octet 34 -/
def bodyOff (t : Spec.Table) (f : Spec.F) : Nat := 34 + (Spec.lookup t f).1

/-- the header fields of the decoded message `m` but the flags (`flags_layout`), the type nibble and the length the
decoder went by, as the value the independent reader finds at its Table 35 position in `b` -/
structure HeaderAt (b : List UInt8) (m : Msg) : Prop where
  domain : m.header.domain = fieldAt b 0 Spec.headerRead .domain_number
  seq : m.header.seq = fieldAt b 0 Spec.headerRead .sequence_id
  correction : m.header.correction = toSigned 64 (fieldAt b 0 Spec.headerRead .correction_field)
  logInterval : m.header.logInterval = toSigned 8 (fieldAt b 0 Spec.headerRead .log_message_interval)
  sdoId : m.header.sdoId = fieldAt b 0 Spec.headerRead .sdo_id / 16 * 256 + fieldAt b 0 Spec.headerRead .sdo_id_1
  verMajor : m.header.verMajor = fieldAt b 0 Spec.headerRead .version % 16
  verMinor : m.header.verMinor = fieldAt b 0 Spec.headerRead .version / 16
  src : m.header.src = pidAt b (Spec.lookup Spec.headerRead .source_port_identity).1
  type : m.body.type.toNibble = fieldAt b 0 Spec.headerRead .message_type % 16
  length : declaredLen b = fieldAt b 0 Spec.headerRead .message_length

theorem header_layout (b : List UInt8) (m : Msg) (h : decode b = .ok m) : HeaderAt b m := by
  obtain ⟨ty, d, rfl⟩ := decode_inv h
  -- the table positions evaluate to the literal offsets of `readHeader`; a field of one octet is that octet; the two
  -- signed fields are written out first, since matching `toSigned ..` against a projection of `readHeader b` is slow
  have one : ∀ i, byteAt b i = beVal b (0 + i) 1 := fun i => by rw [Nat.zero_add, beVal_one]
  exact {
    domain := one 4
    seq := rfl
    correction := by dsimp only [msgAt, readHeader]; rfl
    logInterval := by dsimp only [msgAt, readHeader]; exact congrArg (toSigned 8) (one 33)
    sdoId := by
      show byteAt b 0 / 16 * 256 + byteAt b 5 = beVal b (0 + 0) 1 / 16 * 256 + beVal b (0 + 5) 1
      rw [one 0, one 5]
    verMajor := congrArg (· % 16) (one 1)
    verMinor := congrArg (· / 16) (one 1)
    src := rfl
    type := by
      show (bodyAt ty (contentOf b)).type.toNibble = beVal b (0 + 0) 1 % 16
      rw [bodyAt_type, ← one 0]
      exact toNibble_of_ofNibble (Nat.mod_lt _ (by decide)) d.nibble
    length := rfl }

def specFlags (b : List UInt8) : Flags :=
  { alternateMaster := flagAt b .alternate_master_flag, twoStep := flagAt b .two_step_flag,
    unicast := flagAt b .unicast_flag, profile1 := flagAt b .ptp_profile_specific_1,
    profile2 := flagAt b .ptp_profile_specific_2, leap61 := flagAt b .leap61, leap59 := flagAt b .leap59,
    utcValid := flagAt b .current_utc_offset_valid, ptpTimescale := flagAt b .ptp_timescale,
    timeTraceable := flagAt b .time_tracable, freqTraceable := flagAt b .frequency_tracable,
    syncUncertain := flagAt b .synchronization_uncertain }

theorem flags_layout (b : List UInt8) (m : Msg) (h : decode b = .ok m) :
    m.header.flags = specFlags b := by
  obtain ⟨ty, d, rfl⟩ := decode_inv h
  rfl

/-- bodies: every field of every message type sits where its Clause 13 table says -/
theorem body_layout (b : List UInt8) (m : Msg) (h : decode b = .ok m) :
    match m.body with
    | .sync o => o = tsAt b (bodyOff Spec.sync .origin_timestamp)
    | .delayReq o => o = tsAt b (bodyOff Spec.delayReq .origin_timestamp)
    | .pdelayReq o => o = tsAt b (bodyOff Spec.pdelayReqRead .origin_timestamp)
    | .followUp o => o = tsAt b (bodyOff Spec.followUp .precise_origin_timestamp)
    | .pdelayResp rx req => rx = tsAt b (bodyOff Spec.pdelayResp .request_receive_timestamp) ∧
        req = pidAt b (bodyOff Spec.pdelayResp .requesting_port_identity)
    | .delayResp rx req => rx = tsAt b (bodyOff Spec.delayResp .receive_timestamp) ∧
        req = pidAt b (bodyOff Spec.delayResp .requesting_port_identity)
    | .pdelayRespFu o req => o = tsAt b (bodyOff Spec.pdelayRespFu .response_origin_timestamp) ∧
        req = pidAt b (bodyOff Spec.pdelayRespFu .requesting_port_identity)
    | .signaling t => t = pidAt b (bodyOff Spec.signaling .target_port_identity)
    | .management t s hp a => t = pidAt b (bodyOff Spec.management .target_port_identity) ∧
        s = fieldAt b 34 Spec.management .starting_boundary_hops ∧
        hp = fieldAt b 34 Spec.management .boundary_hops ∧
        a = normAction (fieldAt b 34 Spec.management .action % 16)
    | .announce a => a.origin = tsAt b (bodyOff Spec.announce .origin_timestamp) ∧
        a.utcOffset = toSigned 16 (fieldAt b 34 Spec.announce .current_utc_offset) ∧
        a.p1 = fieldAt b 34 Spec.announce .grandmaster_priority_1 ∧
        a.clockClass = fieldAt b (bodyOff Spec.announce .grandmaster_clock_quality) Spec.clockQuality .clock_class ∧
        a.accuracy = normAccuracy (fieldAt b (bodyOff Spec.announce .grandmaster_clock_quality) Spec.clockQuality .clock_accuracy) ∧
        a.variance = fieldAt b (bodyOff Spec.announce .grandmaster_clock_quality) Spec.clockQuality .offset_scaled_log_variance ∧
        a.p2 = fieldAt b 34 Spec.announce .grandmaster_priority_2 ∧
        a.gm = fieldAt b 34 Spec.announce .grandmaster_identity ∧
        a.steps = fieldAt b 34 Spec.announce .steps_removed ∧
        a.timeSource = fieldAt b 34 Spec.announce .time_source := by
  obtain ⟨ty, d, rfl⟩ := decode_inv h
  have le : ∀ k w, k + w ≤ ty.bodySize → 34 + k + w ≤ declaredLen b := fun k w hk => by
    have := d.bodyFits; omega
  -- the table positions (`tsAt`, `pidAt`, `fieldAt`, `bodyOff`) evaluate to the literal offsets of `readBody`
  have T : ∀ k, k + 10 ≤ ty.bodySize → readTs (contentOf b) k = tsAt b (34 + k) :=
    fun k hk => readTs_content (le k 10 hk)
  have P : ∀ k, k + 10 ≤ ty.bodySize → readPortId (contentOf b) k = pidAt b (34 + k) :=
    fun k hk => readPortId_content (le k 10 hk)
  have B : ∀ k, k < ty.bodySize → byteAt (contentOf b) k = beVal b (34 + k) 1 :=
    fun k hk => (byteAt_content (le k 1 hk)).trans (beVal_one b _).symm
  have V : ∀ k w, k + w ≤ ty.bodySize → beVal (contentOf b) k w = beVal b (34 + k) w :=
    fun k w hk => beVal_content (le k w hk)
  cases ty <;> dsimp only [msgAt, bodyAt]
  case sync | delayReq | pdelayReq | followUp => exact T 0 (by decide)
  case pdelayResp | delayResp | pdelayRespFu => exact ⟨T 0 (by decide), P 10 (by decide)⟩
  case signaling => exact P 0 (by decide)
  case management =>
    exact ⟨P 0 (by decide), B 10 (by decide), B 11 (by decide),
      congrArg (fun x => normAction (x % 16)) (B 12 (by decide))⟩
  case announce =>
    exact ⟨T 0 (by decide), congrArg (toSigned 16) (V 10 2 (by decide)), B 13 (by decide), B 14 (by decide),
      congrArg normAccuracy (B 15 (by decide)), V 16 2 (by decide), B 18 (by decide), V 19 8 (by decide),
      V 27 2 (by decide), B 29 (by decide)⟩

/-- **Idempotence.** Re-encoding a decoded message yields bytes that decode to an
equal message (the bound on the buffer is met by every frame a port can receive, the daemon
passes at most 2048 octets, but is not used: what is re-encoded has the declared length, a 16-bit field). -/
theorem reencode_idem (b : List UInt8) (m : Msg) (hb : b.length < 65536) (h : decode b = .ok m) :
    decode (encode m) = .ok m :=
  decode_encode m (wf_of_decode h)

/-- **Losslessness of `encode`** on everything it can represent. -/
theorem encode_decode_roundtrip (m : Msg) (hw : m.WF) : decode (encode m) = .ok m :=
  decode_encode m hw

/-- **Agreement on defined fields.** Input and re-encoded bytes carry the same value at the Clause 13 position of the
fields below. sdoId is not among them, though `header_layout` locates it as well; reserved bits are not mentioned by
these tables; messageTypeSpecific and controlField need not agree, since `decode` ignores them and `encode` writes
zeros and the value that goes with the type (`header.rs:95`, `:98`). The normalisations of `model_tables` (reserved
clockAccuracy octets, reserved management actions) touch bodies only. -/
theorem reencode_agrees_header (b : List UInt8) (m : Msg) (hb : b.length < 65536) (h : decode b = .ok m) :
    let e := encode m
    fieldAt e 0 Spec.headerRead .domain_number = fieldAt b 0 Spec.headerRead .domain_number ∧
    fieldAt e 0 Spec.headerRead .sequence_id = fieldAt b 0 Spec.headerRead .sequence_id ∧
    toSigned 64 (fieldAt e 0 Spec.headerRead .correction_field) = toSigned 64 (fieldAt b 0 Spec.headerRead .correction_field) ∧
    toSigned 8 (fieldAt e 0 Spec.headerRead .log_message_interval) = toSigned 8 (fieldAt b 0 Spec.headerRead .log_message_interval) ∧
    pidAt e (Spec.lookup Spec.headerRead .source_port_identity).1 = pidAt b (Spec.lookup Spec.headerRead .source_port_identity).1 ∧
    fieldAt e 0 Spec.headerRead .message_type % 16 = fieldAt b 0 Spec.headerRead .message_type % 16 ∧
    fieldAt e 0 Spec.headerRead .version = fieldAt b 0 Spec.headerRead .version ∧
    fieldAt e 0 Spec.headerRead .message_length = fieldAt b 0 Spec.headerRead .message_length ∧
    specFlags e = specFlags b := by
  intro e
  have h2 : decode e = .ok m := reencode_idem b m hb h
  -- both byte strings decode to `m`, whose fields `header_layout` finds at these positions in either
  have A := header_layout b m h
  have B := header_layout e m h2
  refine ⟨B.domain.symm.trans A.domain, B.seq.symm.trans A.seq, B.correction.symm.trans A.correction,
    B.logInterval.symm.trans A.logInterval, B.src.symm.trans A.src, B.type.symm.trans A.type, ?_,
    B.length.symm.trans ((wireSize_of_decode h2).symm.trans ((wireSize_of_decode h).trans A.length)),
    (flags_layout e m h2).symm.trans (flags_layout b m h)⟩
  -- version octet: both nibbles are fields
  rw [← Nat.div_add_mod (fieldAt e _ _ _) 16, ← B.verMinor, ← B.verMajor, A.verMinor, A.verMajor, Nat.div_add_mod]

/-- bodies and TLV suffix: the decoded value (which `body_layout` locates at the Clause 13
offsets of *both* byte strings) is the same, so every body field agrees; the TLV
suffix is copied octet for octet. -/
theorem reencode_agrees_body (b : List UInt8) (m : Msg) (hb : b.length < 65536) (h : decode b = .ok m) :
    ∃ m', decode (encode m) = .ok m' ∧ m'.body = m.body ∧ m'.suffix = m.suffix ∧
      (encode m).drop (34 + m.body.type.bodySize) = (b.take (declaredLen b)).drop (34 + m.body.type.bodySize) := by
  refine ⟨m, reencode_idem b m hb h, rfl, rfl, ?_⟩
  rw [drop_encode_body]
  obtain ⟨ty, d, rfl⟩ := decode_inv h
  rw [msgAt, bodyAt_type]
  exact List.drop_drop ..

/-- a concrete two-step Sync with a PATH_TRACE TLV and two octets of padding decodes, and
re-encodes to the declared-length prefix of the input -/
def sampleFrame : List UInt8 :=
  [0x10, 0x12, 0x00, 0x38, 0x07, 0x23, 0x02, 0x08, 0, 0, 0, 0, 0, 1, 0x80, 0,
   0, 0, 0, 0, 1, 2, 3, 4, 5, 6, 7, 8, 0, 9, 0x12, 0x34, 0, 0xfd,
   0, 0, 0, 0, 0, 5, 0, 0, 0, 7, 0x00, 0x08, 0x00, 0x08, 9, 9, 9, 9, 9, 9, 9, 9, 0xaa, 0xbb]

example :
    (match decode sampleFrame with
      | .ok m => decide (m.header.seq = 0x1234 ∧ m.header.sdoId = 0x123 ∧ m.header.flags.twoStep = true ∧
          m.header.logInterval = -3 ∧ encode m = sampleFrame.take 56 ∧ (tlvs m.suffix).length = 1)
      | .error _ => false) = true := by
  decide +kernel

end Statime.C04
