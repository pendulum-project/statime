import StatimeModel.Lemmas.Order
import StatimeModel.Spec.StateDecision
import StatimeModel.Model.Instance
import StatimeModel.Lemmas.BmcaBind
import StatimeModel.Generated.DatasetComparison
import StatimeModel.Generated.StateDecision
import StatimeModel.Generated.PortMove
/-
C05 — BMCA state decision matches IEEE 1588 for every data set combination.

Tie: `dataset_comparison.rs`, the state decision of `bmc/bmca.rs` and `set_recommended_port_state` are translated from
the source on every run and proved to be the model's `CmpDS.compare`, `recommend`, `Best.compare` and `portMove` (the
`generated_*_is_model` theorems of the section `Translated`); the mixed instance stream drives `PtpInstance::bmca` through
real ports and compares port states and data sets after every run with this model; `CMP` lines compare the data set
comparison itself on exhaustive small domains.
-/
namespace Statime.C05
open Statime

/-! ### the data set comparison -/

/-- **Swapping the operands mirrors the verdict**, for every pair of data sets: better one way round is worse the
other way round, and an error stays the same error. -/
theorem compare_flip (a b : CmpDS) : b.compare a = (a.compare b).flip :=
  CmpDS.compare_flip a b

/-- the comparison key of a candidate: data set key, then age (newer wins ties) -/
def bkey (x : Best) : List Int := (CmpDS.ofAnnounce x.ann x.identity).key ++ [x.age]

/-! `Good` and `Cons` are the hypotheses under which the comparison is a strict weak order. `Good` holds of every
Erbest of a list grown from the empty one: `is_announce_message_qualified` rejects the own clock (`C06.history_clean`).
`Cons` is an assumption about the network and no invariant: two Announces that name one grandmaster with different
attributes violate it, and the order is then lost (`compare_cycle_witness` below, the open finding
`order-dependent-gm-inconsistent`). -/

/-- the candidate was not received by its own sender (own Announces are never stored) -/
def Good (x : Best) : Prop := (CmpDS.ofAnnounce x.ann x.identity).NoSelf
/-- if the two name the same grandmaster they agree on its attributes (a grandmaster announces one set of them) -/
def Cons (x y : Best) : Prop := (CmpDS.ofAnnounce x.ann x.identity).GMCons (CmpDS.ofAnnounce y.ann y.identity)

theorem bkey_length (x : Best) : (bkey x).length = 10 := rfl

/-- on such candidates `BestAnnounceMessage::compare` is the order of `bkey` read backwards: the smaller key is the
greater candidate -/
theorem best_compare_key (x y : Best) (hx : Good x) (hy : Good y) (hc : Cons x y) :
    Best.compare x y = keyCmp (bkey y) (bkey x) := by
  unfold Best.compare bkey
  rw [compare_asOrdering_key _ _ hx hy hc, keyCmp_append _ _ _ _ (CmpDS.key_length _)]
  rfl

/-- **Transitivity** (strict weak order): on consistent candidates, "not worse than" is transitive. -/
theorem compare_trans (x y z : Best) (hx : Good x) (hy : Good y) (hz : Good z)
    (cxy : Cons x y) (cyz : Cons y z) (cxz : Cons x z)
    (h1 : Best.compare x y ≠ .gt) (h2 : Best.compare y z ≠ .gt) : Best.compare x z ≠ .gt := by
  rw [best_compare_key _ _ hx hy cxy] at h1
  rw [best_compare_key _ _ hy hz cyz] at h2
  rw [best_compare_key _ _ hx hz cxz]
  exact keyCmp_le_trans _ _ _ ((bkey_length z).trans (bkey_length y).symm) ((bkey_length y).trans (bkey_length x).symm)
    h2 h1

/-- the unrestricted statement is false for IEEE's algorithm itself. `a` and `c` name the same grandmaster (7) with
different priority1, so `GMCons` fails for them; `b` names another one. `a` beats `b` and `b` beats `c` by priority1
(different grandmasters, Figure 34), and `c` beats `a` by stepsRemoved (same grandmaster, Figure 35, which does not
look at priority1) -/
theorem compare_cycle_witness :
    ∃ a b c : CmpDS, (a.compare b).asOrdering = .gt ∧ (b.compare c).asOrdering = .gt ∧ (c.compare a).asOrdering = .gt := by
  refine ⟨{ gmP1 := 1, gmId := 7, gmClass := 0, gmAcc := 0, gmVar := 0, gmP2 := 0, steps := 5, sender := 1, receiver := ⟨9, 1⟩ },
          { gmP1 := 2, gmId := 8, gmClass := 0, gmAcc := 0, gmVar := 0, gmP2 := 0, steps := 0, sender := 1, receiver := ⟨9, 1⟩ },
          { gmP1 := 3, gmId := 7, gmClass := 0, gmAcc := 0, gmVar := 0, gmP2 := 0, steps := 0, sender := 1, receiver := ⟨9, 1⟩ }, ?_⟩
  decide

/-! ### Ebest / Erbest selection -/

/-- `find_best_announce_message` returns a candidate whose key is minimal; `findBest_maximal`, `findBest_same_key` and
`findBest_perm` below say this of `Best.compare` again, through `best_compare_key` -/
theorem findBest_minKey (l : List Best) (b : Best) (hg : ∀ x ∈ l, Good x)
    (hc : ∀ x ∈ l, ∀ y ∈ l, Cons x y) (h : findBest l = some b) :
    b ∈ l ∧ ∀ x ∈ l, keyCmp (bkey b) (bkey x) ≠ .gt :=
  maxByG_keyMin bkey 10 (fun a _ => bkey_length a)
    (fun a ha b hb => best_compare_key a b (hg a ha) (hg b hb) (hc a ha b hb))
    ((maxBy_eq Best.compare l).symm.trans h)

/-- **The selected parent is never worse than any other qualified candidate** (and is one of them). -/
theorem findBest_maximal (l : List Best) (b : Best) (hg : ∀ x ∈ l, Good x)
    (hc : ∀ x ∈ l, ∀ y ∈ l, Cons x y) (h : findBest l = some b) :
    b ∈ l ∧ ∀ x ∈ l, Best.compare x b ≠ .gt := by
  obtain ⟨hm, hmin⟩ := findBest_minKey l b hg hc h
  refine ⟨hm, fun x hx => ?_⟩
  rw [best_compare_key x _ (hg x hx) (hg _ hm) (hc x hx _ hm)]
  exact hmin x hx

/-- two presentations of the same candidates select candidates with the same key: they agree on every attribute the
comparison looks at, and on the age -/
theorem findBest_same_key (l l' : List Best) (b b' : Best) (hp : ∀ x, x ∈ l ↔ x ∈ l')
    (hg : ∀ x ∈ l, Good x) (hc : ∀ x ∈ l, ∀ y ∈ l, Cons x y)
    (h : findBest l = some b) (h' : findBest l' = some b') : b ∈ l ∧ b' ∈ l ∧ bkey b = bkey b' := by
  obtain ⟨m1, a1⟩ := findBest_minKey l b hg hc h
  obtain ⟨m2, a2⟩ := findBest_minKey l' b' (fun x hx => hg x ((hp x).2 hx))
    (fun x hx y hy => hc x ((hp x).2 hx) y ((hp y).2 hy)) h'
  have m2' := (hp b').2 m2
  exact ⟨m1, m2', keyCmp_antisymm _ _ ((bkey_length b).trans (bkey_length b').symm) (a1 b' m2') (a2 b ((hp b).1 m1))⟩

/-- **Order independence of the selection.** Two presentations of the same candidates (any
permutation, or any list with the same members) select candidates that compare as equal: neither is preferred to the
other. -/
theorem findBest_perm (l l' : List Best) (b b' : Best) (hp : ∀ x, x ∈ l ↔ x ∈ l')
    (hg : ∀ x ∈ l, Good x) (hc : ∀ x ∈ l, ∀ y ∈ l, Cons x y)
    (h : findBest l = some b) (h' : findBest l' = some b') : Best.compare b b' = .eq := by
  obtain ⟨m, m', e⟩ := findBest_same_key l l' b b' hp hg hc h h'
  rw [best_compare_key b b' (hg b m) (hg b' m') (hc b m b' m'), e, keyCmp_refl]

/-! ### the state decision -/

/-- statime's decision code for a recommended state -/
def code : Option Recommended → Spec.Decision
  | none => .stay
  | some (.m1 _) => .m1 | some (.m2 _) => .m2 | some (.m3 _) => .m3
  | some (.p1 _) => .p1 | some (.p2 _) => .p2 | some (.s1 _) => .s1

/-- `compare_d0_best` against Figure 33's "D0 better or better by topology than E": the code's `worse` is the
standard's "no", and carries the message it lost to -/
theorem d0_split (d0 : CmpDS) (e : Option Best) :
    (∃ b, e = some b ∧ compareD0Best d0 e = .worse b ∧ Spec.d0Wins d0 e = false) ∨
    ((compareD0Best d0 e = .better ∨ compareD0Best d0 e = .same) ∧ Spec.d0Wins d0 e = true) := by
  cases e with
  | none => exact Or.inr ⟨Or.inl rfl, rfl⟩
  | some b =>
    unfold compareD0Best Spec.d0Wins
    dsimp only
    cases d0.compare (CmpDS.ofAnnounce b.ann b.identity)
    case worse | worseTopo => exact Or.inl ⟨b, rfl, rfl, rfl⟩
    case better | betterTopo => exact Or.inr ⟨Or.inl rfl, rfl⟩
    case error1 | error2 => exact Or.inr ⟨Or.inr rfl, rfl⟩

/-- **The recommended state is the one Figure 33 prescribes**, for every own data set, every
Ebest / Erbest and every prior port state. -/
theorem decision_matches_spec (own : DefaultDS) (ebest erbest : Option Best) (listening : Bool) :
    code (recommend own ebest erbest listening) = Spec.stateDecision own ebest erbest listening := by
  unfold recommend Spec.stateDecision
  by_cases h0 : (erbest.isNone && listening) = true
  · rw [if_pos h0, if_pos h0]
    rfl
  rw [if_neg h0, if_neg h0]
  by_cases hc : 1 ≤ own.quality.clockClass ∧ own.quality.clockClass ≤ 127
  · rw [if_pos hc, if_pos hc]
    unfold recommendLow
    rcases d0_split (CmpDS.ofOwn own) erbest with ⟨b, _, h1, h2⟩ | ⟨h1 | h1, h2⟩ <;> rw [h1, h2] <;> rfl
  rw [if_neg hc, if_neg hc]
  unfold recommendHigh
  rcases d0_split (CmpDS.ofOwn own) ebest with ⟨g, rfl, h1, h2⟩ | ⟨h1 | h1, h2⟩ <;> rw [h1, h2]
  · cases erbest with
    | none => rfl
    | some p =>
      dsimp only
      unfold compareGlobalAndPort Spec.betterOrTopo
      by_cases hgp : g = p
      · rw [if_pos hgp, if_pos hgp]
        rfl
      rw [if_neg hgp, if_neg hgp]
      -- "better by topology" is one of the outcomes "better or better by topology" asks for
      by_cases hbt : (CmpDS.ofAnnounce g.ann g.identity).compare (CmpDS.ofAnnounce p.ann p.identity) = .betterTopo
      · rw [if_pos hbt, hbt]
        rfl
      · rw [if_neg hbt, if_neg (fun h : _ ∧ _ => hbt h.2)]
        rfl
  · rfl
  · rfl

/-- S1 is decided only when Ebest was received on this port, and carries Ebest's Announce -/
theorem decision_payload (own : DefaultDS) (ebest erbest : Option Best) (listening : Bool) (a : Ann)
    (h : recommend own ebest erbest listening = some (.s1 a)) :
    ∃ g, ebest = some g ∧ erbest = some g ∧ a = g.ann := by
  cases recommend_cases h with
  | s1 _ worse here => exact ⟨_, compareD0Best_worse worse, here, rfl⟩

/-! ### The port on which S1 was decided is bound to the selected parent -/

/-- **Decision S1 applied to a port** (`set_recommended_state`, any port that is not disabled by a peer-delay fault,
whatever it was doing before): afterwards the port is Slave *of the sender of the selected Announce* — also when it
was already Slave of another port of the same clock — and that sender is the parent the data sets name.
(`boundTo` = `SlaveState::remote_master`, the `RM` part of the state line.) -/
theorem s1_binds_port_to_parent (p p' : Port) (a : Ann) (s s' : InstState) (ev : List Out) (pend : Option (List Out))
    (hf : p.st ≠ .faulty)
    (h : p.setRecommendedState (.s1 a) s = .ok (p', s', ev, pend)) :
    boundTo p' = some a.hdr.src ∧ s'.parent.parentPort = a.hdr.src :=
  setRecommendedState_s1_binds p p' a s s' ev pend hf h

/-- **After every BMCA run (all ports passed, each once) every Slave port is bound to the parent the data sets name**:
whatever the ports were doing before the run, whichever order they are presented in, whatever else the run decided for
the other ports. -/
theorem bmca_binds_slaves_to_the_parent (i i' : Inst) (order : List Nat) (obs : Obs) (hnd : order.Nodup)
    (hall : ∀ j, j < i.ports.length → j + 1 ∈ order)
    (h : i.bmca order = .ok (i', obs)) :
    ∀ (j : Nat) (p' : Port), i'.ports[j]? = some p' → ∀ r, boundTo p' = some r → r = i'.st.parent.parentPort := by
  obtain ⟨_, _, _, run⟩ := bmca_ran h
  intro j p' hp' r hr
  obtain ⟨p, hp⟩ := run.back hp'
  exact (run.visited hnd hall hp hp').bound hr

/-- a port that was Slave of port 1 of a clock and is handed S1 for port 2 of the same clock follows it (non-vacuity of
the case the theorem is about) -/
example :
    let p : Port := { (default : Port) with st := .slave ⟨5, 1⟩ .empty .empty none }
    let a : Ann := ⟨{ src := ⟨5, 2⟩ }, { origin := ⟨0, 0⟩, utcOffset := 0, p1 := 10, clockClass := 6, accuracy := 0x20, variance := 100, p2 := 1, gm := 5, steps := 1, timeSource := 0 }⟩
    (portMove p (.s1 a) default).map (·.1) = some (.slave ⟨5, 2⟩ .empty .empty none) := by
  decide

/-! ### Non-vacuity -/

def sampleA : Best :=
  ⟨⟨{ src := ⟨5, 1⟩ }, { origin := ⟨0, 0⟩, utcOffset := 0, p1 := 10, clockClass := 6, accuracy := 0x20, variance := 100, p2 := 1, gm := 5, steps := 1, timeSource := 0 }⟩, 0, ⟨9, 1⟩⟩
def sampleB : Best :=
  ⟨⟨{ src := ⟨6, 1⟩ }, { origin := ⟨0, 0⟩, utcOffset := 0, p1 := 20, clockClass := 6, accuracy := 0x20, variance := 100, p2 := 1, gm := 6, steps := 1, timeSource := 0 }⟩, 0, ⟨9, 1⟩⟩

example : Good sampleA ∧ Good sampleB ∧ Cons sampleA sampleB ∧ Best.compare sampleA sampleB = .gt ∧
    findBest [sampleB, sampleA] = some sampleA := by
  refine ⟨?_, ?_, ?_, ?_, ?_⟩
  · unfold Good CmpDS.NoSelf; decide
  · unfold Good CmpDS.NoSelf; decide
  · unfold Cons CmpDS.GMCons; decide
  · decide
  · decide

/-! ### the comparison, the decision and its application as translated from the source on this run

`translator/extract_cmp.py` turns `dataset_comparison.rs` into data (`Generated/DatasetComparison.lean`) whose
meaning is given by the interpreter of `Lemmas/CmpGen.lean`; likewise `extract_bmca.py` (`Generated/StateDecision.lean`,
`Lemmas/DecisionGen.lean`) and `extract_portmove.py` (`Generated/PortMove.lean`, `Lemmas/PortMoveGen.lean`). The
theorems below re-prove, against whatever the source says now, that this meaning is the hand-written model the
theorems above are about.

Every translated item is an `Option`, `none` when the translator does not recognise the source any more (the check
reports that; it is not an alarm). Hence the statements `∀ t, Generated.x = some t → …`, and hence every proof does
`cases h` on that equation and the rest under `all_goals`: on a table `cases` puts the table in and leaves
one goal, on `none` it leaves none, and the proof has to go through either way. `translator/selftest.py` checks both,
and that a change of meaning in the source breaks the theorem of the function changed. -/
section Translated
open Statime.CmpGen Statime.DecGen Statime.MoveGen

theorem generated_figure34_is_model (a b : CmpDS) :
    ∀ keys arms, Generated.figure34Chain = some keys → Generated.figure34Arms = some arms →
      evalDifferent keys arms.1 arms.2 a b = compareDifferent a b := by
  intro keys arms hk ha
  cases hk <;> cases ha
  -- both sides evaluate to the same `match` on `lexCmp` of the same six pairs
  all_goals rfl

theorem generated_figure35_is_model (a b : CmpDS) :
    ∀ arms, Generated.figure35Arms = some arms → evalArms arms a b = some (compareSame a b) := by
  intro arms h
  cases h
  all_goals (
    dsimp only [evalArms, geLo, leHi, Body.eval, Side.pick, lexKeys, List.map_cons, List.map_nil, Field.get]
    rw [pick3_cmpNat, pick3_cmpNat]
    unfold compareSame
    generalize ((a.steps : Int) - (b.steps : Int)) = d
    have hd : 2 ≤ d ∨ d ≤ -2 ∨ d = 1 ∨ d = -1 ∨ d = 0 := by omega
    rcases hd with h | h | rfl | rfl | rfl
    -- all four other bounds are given though the table as it stands asks for fewer: `translator/selftest.py` presents
    -- the same arms in another order, and then they are asked for
    · simp [show 2 ≤ d ∧ ¬ d ≤ -2 ∧ ¬ d ≤ 1 ∧ ¬ d ≤ -1 ∧ ¬ d ≤ 0 by omega]
    · simp [show d ≤ -2 ∧ ¬ 2 ≤ d ∧ ¬ 1 ≤ d ∧ ¬ -1 ≤ d ∧ ¬ 0 ≤ d by omega]
    -- the difference is a literal: both sides evaluate
    · rfl
    · rfl
    · rfl)

/-- **the comparison translated from `dataset_comparison.rs` on this run is the model's comparison**: the dispatch of
`compare`, the arms of `compare_same_identity` and the chain of `compare_different_identity`, as extracted, evaluate to
`CmpDS.compare` on all pairs of data sets -/
theorem generated_compare_is_model (a b : CmpDS) :
    ∀ disp arms keys res, Generated.cmpDispatch = some disp → Generated.figure35Arms = some arms →
      Generated.figure34Chain = some keys → Generated.figure34Arms = some res →
      evalCompare disp arms keys res.1 res.2 a b = some (a.compare b) := by
  intro disp arms keys res hd h35 hk hr
  have h1 := generated_figure35_is_model a b arms h35
  have h2 := generated_figure34_is_model a b keys res hk hr
  cases hd
  all_goals (
    unfold evalCompare CmpDS.compare
    rw [h1, h2]
    have hg : ∀ x : CmpDS, Field.gmId.get x = x.gmId := fun _ => rfl
    by_cases h : a.gmId = b.gmId
    · rw [if_pos (by rw [hg, hg]; exact h), if_pos h]
    · rw [if_neg (by rw [hg, hg]; exact h), if_neg h])

theorem generated_as_ordering_is_model :
    ∀ tbl, Generated.asOrderingTable = some tbl → ∀ d, lookupOrd tbl d = some d.asOrdering := by
  intro tbl h d
  cases h
  all_goals (
    cases d <;> rfl)

theorem generated_of_announce_is_model (a : Ann) (r : PortId) :
    ∀ tbl, Generated.ofAnnounceTable = some tbl → build tbl (Src.ofAnn a r) = some (CmpDS.ofAnnounce a r) := by
  intro tbl h
  cases h
  all_goals (
    rfl)

theorem generated_of_own_is_model (d : DefaultDS) :
    ∀ tbl, Generated.ofOwnTable = some tbl → build tbl (Src.ofOwn d) = some (CmpDS.ofOwn d) := by
  intro tbl h
  cases h
  all_goals (
    rfl)

/-- `ClockAccuracy::cmp_numeric` compares the octets, in this order (when the translator recognises it at all) -/
theorem generated_accuracy_by_octet : Generated.accuracyComparedByOctet ≠ some false := by decide

/-- `compare_global_and_port` -/
theorem generated_global_and_port_is_model (own : DefaultDS) (g p : Best) :
    ∀ t, Generated.decisionTable = some t → evalGP t own (some g) (some p) = some (compareGlobalAndPort g p) := by
  intro t h
  cases h
  all_goals (
    unfold evalGP compareGlobalAndPort
    dsimp only [Who.get]
    by_cases hgp : g = p
    · -- with `g = p` it does not matter which of the two S1 is said to carry
      subst hgp
      rw [if_pos rfl, if_pos rfl]
      rfl
    · rw [if_neg hgp, if_neg hgp, apply_ite some]
      rfl)

/-- `calculate_recommended_state_low_class`, with `compare_d0_best` -/
theorem generated_low_class_is_model (own : DefaultDS) (ebest erbest : Option Best) :
    ∀ t, Generated.decisionTable = some t → evalLow t own ebest erbest = some (recommendLow own erbest) := by
  intro t h
  cases h
  all_goals (
    unfold evalLow recommendLow evalD0 compareD0Best
    cases erbest with
    | none => rfl
    | some b =>
      dsimp only [Who.get]
      cases ((CmpDS.ofOwn own).compare (CmpDS.ofAnnounce b.ann b.identity)).asOrdering <;> rfl)

/-- `calculate_recommended_state_high_class`, with `compare_d0_best` -/
theorem generated_high_class_is_model (own : DefaultDS) (ebest erbest : Option Best) :
    ∀ t, Generated.decisionTable = some t → evalHigh t own ebest erbest = some (recommendHigh own ebest erbest) := by
  intro t h
  have hgp := fun g p => generated_global_and_port_is_model own g p t h
  cases h
  all_goals (
    unfold evalHigh recommendHigh evalD0 compareD0Best
    cases ebest with
    | none => rfl
    | some g =>
      dsimp only [Who.get]
      cases ((CmpDS.ofOwn own).compare (CmpDS.ofAnnounce g.ann g.identity)).asOrdering
      · cases erbest with
        | none => rfl
        | some p =>
          dsimp only [Who.get]
          unfold Leaf.eval
          rw [if_pos rfl]
          exact hgp g p
      · rfl
      · rfl)

/-- **the state decision translated from `bmc/bmca.rs` on this run is the model's `recommend`**: the guard, the
clockClass range, the arms of the low-class and high-class decisions, of `compare_d0_best` and of
`compare_global_and_port`, as extracted into `Generated.decisionTable`, evaluate to `recommend` for every own data
set, Ebest, Erbest and prior state (and `recommend` is Figure 33 by `decision_matches_spec` above) -/
theorem generated_state_decision_is_model (own : DefaultDS) (ebest erbest : Option Best) (listening : Bool) :
    ∀ t, Generated.decisionTable = some t →
      evalRecommend t own ebest erbest listening = some (recommend own ebest erbest listening) := by
  intro t h
  obtain ⟨hguard, hlo, hhi⟩ : t.guardNone = true ∧ t.lowLo = 1 ∧ t.lowHi = 127 := by
    cases h
    all_goals exact ⟨rfl, rfl, rfl⟩
  unfold evalRecommend recommend
  rw [generated_low_class_is_model own ebest erbest t h, generated_high_class_is_model own ebest erbest t h,
    hguard, hlo, hhi, Bool.true_and, apply_ite some, apply_ite some]
  rfl

/-- **`BestAnnounceMessage::compare` as translated on this run is the model's `Best.compare`** (data set ordering of
`self` against `other`, ties broken towards the newer message) -/
theorem generated_best_compare_is_model (x y : Best) :
    ∀ t, Generated.bestCompareTable = some t → evalBestCompare t x y = Best.compare x y := by
  intro t h
  cases h
  all_goals (
    unfold evalBestCompare Best.compare ordThen
    simp only [if_true]
    cases ((CmpDS.ofAnnounce x.ann x.identity).compare (CmpDS.ofAnnounce y.ann y.identity)).asOrdering <;> rfl)

/-- `find_best_announce_message` takes the maximum under that comparison by `max_by` (when the translator recognises
the call at all) -/
theorem generated_find_best_is_max : Generated.findBestIsMaxBy ≠ some false := by decide

/-- **`set_recommended_port_state` as translated on this run is the model's `portMove`** ("application of the
decision"): for S1, for M1 / M2 / M3 (slave-only instance, port disabled by a sibling, otherwise) and for P1 / P2, per
current port state: whether the port moves, where to, and which timer actions become pending - for every port,
recommendation and default data set. In particular a Faulty port is moved by no decision code. -/
theorem generated_port_move_is_model (p : Port) (r : Recommended) (d : DefaultDS) :
    ∀ t, Generated.portMoveTable = some t → evalPortMove t p r d = some (portMove p r d) := by
  intro t h
  -- both sides look at `p` only through `p.st` and `p.multiportDisable.isSome`, at `d` only through `d.slaveOnly`,
  -- and at an M decision not at all: M1 stands for the three. They are named before `cases h` puts the table in:
  -- after it every `generalize` has to walk through the table
  have hM : evalPortMove t p (.m1 d) d = some (portMove p (.m1 d) d) := by
    dsimp only [evalPortMove, portMove]
    generalize p.st = st
    generalize p.multiportDisable.isSome = dis
    generalize d.slaveOnly = so
    cases h
    all_goals
      cases so
      · cases dis <;> cases st <;> rfl
      · cases st <;> rfl
  cases r with
  | m1 _ | m2 _ | m3 _ => exact hM
  | s1 _ | p1 _ | p2 _ =>
    dsimp only [evalPortMove, portMove]
    generalize p.st = st
    cases h
    all_goals cases st <;> rfl

end Translated

end Statime.C05
