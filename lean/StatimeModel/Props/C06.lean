import StatimeModel.Generated.Qualification
import StatimeModel.Lemmas.FmlMulti
import StatimeModel.Generated.Consts
/-
C06 — Foreign masters qualify only by sustained Announces and expire when silent.

The foreign master list of one port as a transition system over the two things that
touch it: an Announce handed to `register_announce_message` and a BMCA run
(`take_best_port_announce_message`, then `step_age`).

Tie: `is_announce_message_qualified` is translated from the source on every run and proved to be the model's
`FML.qualified` (`generated_qualification_is_model`), the constants are re-extracted (`tie_constants`); the list is
driven through real ports by the `inst`/`fml` streams (arrival patterns, duplicates, stale and wrapping sequence
ids, BMCA phases) and compared with the model after every BMCA run.
-/
namespace Statime.C06
open Statime

/-- `none`: the translator does not recognise the constant any more (the check reports that), and it counts as tied -/
def tieC (g : Option Nat) (m : Nat) : Bool := match g with | none => true | some v => v == m

theorem tie_constants :
    tieC Generated.foreignMasterTimeWindow FM_TIME_WINDOW ∧ tieC Generated.foreignMasterThreshold FM_THRESHOLD ∧
    tieC Generated.maxAnnounceMessages MAX_ANNOUNCE_MESSAGES ∧ tieC Generated.maxForeignMasters MAX_FOREIGN_MASTERS ∧
    tieC Generated.seqIdHalfRange SEQ_HALF ∧ tieC Generated.stepsRemovedCutoff STEPS_CUTOFF := by
  decide

inductive FOp
  | announce (a : Ann)        -- `Bmca::register_announce_message`
  | bmca (step : Int)         -- `take_best_port_announce_message` + `step_age(step)`

/-- the second component is the Erbest a BMCA run produced -/
def fmlStep (acc : Option (List Nat)) (l : FML) : FOp → FML × Option Best
  | .announce a => ((bmcaRegister l acc a).1, none)
  | .bmca step => ((takeBest l acc).1.stepAge step, (takeBest l acc).2)

def fmlRun (acc : Option (List Nat)) (l : FML) : List FOp → FML × List (Option Best)
  | [] => (l, [])
  | op :: ops =>
    let (l1, o) := fmlStep acc l op
    let (l2, os) := fmlRun acc l1 ops
    (l2, o :: os)

def emptyFML (interval : Int) (own : PortId) : FML := { masters := [], interval := interval, own := own }

theorem fmlRun_nil (acc : Option (List Nat)) (l : FML) : fmlRun acc l [] = (l, []) := rfl

theorem fmlRun_cons (acc : Option (List Nat)) (l : FML) (op : FOp) (ops : List FOp) :
    fmlRun acc l (op :: ops) =
      ((fmlRun acc (fmlStep acc l op).1 ops).1, (fmlStep acc l op).2 :: (fmlRun acc (fmlStep acc l op).1 ops).2) :=
  rfl

theorem fmlRun_append (acc : Option (List Nat)) (xs ys : List FOp) : ∀ (l : FML),
    fmlRun acc l (xs ++ ys) = ((fmlRun acc (fmlRun acc l xs).1 ys).1, (fmlRun acc l xs).2 ++ (fmlRun acc (fmlRun acc l xs).1 ys).2) := by
  induction xs with
  | nil => intro l; rfl
  | cons x xs ih =>
    intro l
    rw [List.cons_append, fmlRun_cons, fmlRun_cons, ih]
    rfl

/-- **A parent candidate always had at least two records** — the newest of which is the
candidate. (`FM_THRESHOLD = 2`.) -/
theorem erbest_needs_threshold (l : FML) (acc : Option (List Nat)) (b : Best)
    (h : (takeBest l acc).2 = some b) :
    ∃ m ∈ l.masters, 2 ≤ m.recs.length ∧ m.recs.getLast? = some ⟨b.ann, b.age⟩ :=
  (takeBest_spec l acc b h).2

def Filed (l : FML) : Prop := ∀ m ∈ l.masters, ∀ r ∈ m.recs, r.ann.hdr.src = m.id

theorem fmlStep_params (acc : Option (List Nat)) (l : FML) (op : FOp) : SameParams (fmlStep acc l op).1 l := by
  cases op with
  | announce a => exact bmcaRegister_params l acc a
  | bmca s => exact (stepAge_params _ s).trans (takeBest_params l acc)

theorem fmlStep_allM (P : PortId → Ann → Prop) (acc : Option (List Nat)) (l : FML) (op : FOp)
    (hP : Admits P l.own) (h : AllM P l) : AllM P (fmlStep acc l op).1 := by
  cases op with
  | announce a => exact bmcaRegister_allM P l acc a hP h
  | bmca s => exact stepAge_allM P _ s (takeBest_allM P l acc hP h)

theorem filed_step (acc : Option (List Nat)) (l : FML) (op : FOp) (h : Filed l) : Filed (fmlStep acc l op).1 :=
  fmlStep_allM (fun id a => a.hdr.src = id) acc l op (fun _ _ _ => rfl) h

/-- **Every history.** `I`: an invariant of the list; `A`: the operations admitted; `Q`: what every candidate reported
along the history then satisfies. -/
theorem fmlRun_outputs (acc : Option (List Nat)) (I : FML → Prop) (A : FOp → Prop) (Q : Best → Prop)
    (step : ∀ l op, I l → A op → I (fmlStep acc l op).1)
    (out : ∀ l b, I l → (takeBest l acc).2 = some b → Q b) (ops : List FOp) :
    ∀ l, I l → (∀ op ∈ ops, A op) → ∀ o ∈ (fmlRun acc l ops).2, ∀ b, o = some b → Q b := by
  induction ops with
  | nil => intro _ _ _ o ho; cases ho
  | cons op ops ih =>
    intro l hI hA o ho b hb
    rw [fmlRun_cons] at ho
    rcases List.mem_cons.1 ho with e | e
    · subst e
      cases op with
      | announce a => cases hb
      | bmca s => exact out l b hI hb
    · exact ih _ (step l op hI (hA op List.mem_cons_self)) (fun op' h' => hA op' (List.mem_cons_of_mem _ h')) o e b hb

def AtMost (l : FML) (src : PortId) (n : Nat) : Prop := ∀ m ∈ l.masters, m.id = src → m.recs.length ≤ n

/-- **Never on the strength of a single message**: a sender with at most one stored record is not
selected as Erbest. -/
theorem single_record_not_selected (l : FML) (acc : Option (List Nat)) (src : PortId) (b : Best)
    (hf : Filed l) (h1 : AtMost l src 1) (h : (takeBest l acc).2 = some b) : b.ann.hdr.src ≠ src := by
  obtain ⟨m, hm, hth, hl⟩ := erbest_needs_threshold l acc b h
  intro hs
  have hr : (⟨b.ann, b.age⟩ : FRec) ∈ m.recs := List.mem_of_getLast? hl
  have hid : m.id = src := by rw [← hf m hm _ hr]; exact hs
  exact absurd (Nat.le_trans hth (h1 m hm hid)) (by decide)

theorem hered_atMost (src : PortId) (n : Nat) : Hered (fun m => m.id = src → m.recs.length ≤ n) :=
  (hered_length n).of_id (· = src)

theorem atMost_register_other (l : FML) (src : PortId) (n : Nat) (a : Ann) (age : Int)
    (hne : a.hdr.src ≠ src) (h : AtMost l src n) : AtMost (l.register a age) src n :=
  register_all l a age (fun _ hm => hm)
    (fun _ _ he _ hid => absurd (he.symm.trans ((register_id _ _ _ _).symm.trans hid)) hne)
    (fun _ _ hid => absurd hid hne) h

theorem atMost_register (l : FML) (src : PortId) (n : Nat) (a : Ann) (age : Int) (h : AtMost l src n) :
    AtMost (l.register a age) src (n + 1) :=
  register_all l a age (fun _ hm hid => Nat.le_succ_of_le (hm hid))
    (fun _ _ _ hm hid => Nat.le_trans (register_length_le _ _ _ _)
      (Nat.succ_le_succ (hm ((register_id _ _ _ _).symm.trans hid))))
    (fun _ _ _ => Nat.succ_le_succ (Nat.zero_le n)) h

theorem atMost_other_announce (l : FML) (acc : Option (List Nat)) (src : PortId) (n : Nat) (a : Ann)
    (hne : a.hdr.src ≠ src) (h : AtMost l src n) : AtMost (fmlStep acc l (.announce a)).1 src n := by
  rcases bmcaRegister_cases l acc a with e | e <;> rw [fmlStep, e]
  · exact atMost_register_other l src n a 0 hne h
  · exact h

theorem atMost_announce (l : FML) (acc : Option (List Nat)) (src : PortId) (n : Nat) (a : Ann)
    (h : AtMost l src n) : AtMost (fmlStep acc l (.announce a)).1 src (n + 1) := by
  rcases bmcaRegister_cases l acc a with e | e <;> rw [fmlStep, e]
  · exact atMost_register l src n a 0 h
  · exact fun m hm hid => Nat.le_succ_of_le (h m hm hid)

theorem atMost_stepAge (l : FML) (src : PortId) (n : Nat) (s : Int) (h : AtMost l src n) : AtMost (l.stepAge s) src n :=
  stepAge_all (hered_atMost src n) l s
    (fun _ hm hid => Nat.le_trans (Nat.le_of_eq (List.length_map _)) (hm hid)) h

/-- a BMCA run adds no record for a sender with at most one record: it is not selected, so not registered again -/
theorem atMost_one_bmca (l : FML) (acc : Option (List Nat)) (src : PortId) (s : Int)
    (hf : Filed l) (h : AtMost l src 1) : AtMost (fmlStep acc l (.bmca s)).1 src 1 := by
  refine atMost_stepAge _ src 1 s ?_
  have hq : AtMost (tqList l) src 1 := tqList_all (hered_atMost src 1) l h
  rcases takeBest_list l acc with e | ⟨b, hb, e⟩ <;> rw [e]
  · exact hq
  · exact atMost_register_other _ src 1 b.ann b.age (single_record_not_selected l acc src b hf h hb) hq

/-- "at most one record of `src`, every record filed under its sender" is kept by every operation but an Announce of
`src`, and keeps `src` from being selected -/
theorem one_record_never_selected (acc : Option (List Nat)) (l : FML) (src : PortId) (ops : List FOp)
    (hf : Filed l) (h1 : AtMost l src 1) (hops : ∀ op ∈ ops, ∀ a', op = .announce a' → a'.hdr.src ≠ src) :
    ∀ o ∈ (fmlRun acc l ops).2, ∀ b, o = some b → b.ann.hdr.src ≠ src := by
  refine fmlRun_outputs acc (fun l => AtMost l src 1 ∧ Filed l) (fun op => ∀ a', op = .announce a' → a'.hdr.src ≠ src)
    (fun b => b.ann.hdr.src ≠ src) (fun l1 op h hop => ⟨?_, filed_step acc l1 op h.2⟩)
    (fun l1 b h hb => single_record_not_selected l1 acc src b h.2 h.1 hb) ops l ⟨h1, hf⟩ hops
  cases op with
  | announce a' => exact atMost_other_announce l1 acc src 1 a' (hop a' rfl) h.1
  | bmca s => exact atMost_one_bmca l1 acc src s h.2 h.1

/-- **History form.** Starting from a port that has heard nothing of `src`, after exactly one
Announce from `src` and any further history *without* Announces from `src`, no BMCA run
ever yields `src` as Erbest — whatever else arrives, however the runs are phased. -/
theorem single_announce_never_qualifies (acc : Option (List Nat)) (l : FML) (src : PortId) (a : Ann)
    (ops : List FOp) (hf : Filed l) (h0 : AtMost l src 0) (ha : a.hdr.src = src)
    (hops : ∀ op ∈ ops, ∀ a', op = .announce a' → a'.hdr.src ≠ src) :
    ∀ o ∈ (fmlRun acc (fmlStep acc l (.announce a)).1 ops).2, ∀ b, o = some b → b.ann.hdr.src ≠ src :=
  one_record_never_selected acc _ src ops (filed_step acc l _ hf) (atMost_announce l acc src 0 a h0) hops

def Clean (l : FML) : Prop := AllM (fun _ a => a.body.steps < 255 ∧ a.hdr.src.clock ≠ l.own.clock) l

theorem clean_step (acc : Option (List Nat)) (l : FML) (op : FOp) (h : Clean l) : Clean (fmlStep acc l op).1 := by
  unfold Clean
  rw [(fmlStep_params acc l op).own]
  exact fmlStep_allM _ acc l op (fun _ h1 h2 => ⟨h2, h1⟩) h

/-- **Never stepsRemoved ≥ 255, never the own clock identity** as a parent candidate. -/
theorem erbest_clean (l : FML) (acc : Option (List Nat)) (b : Best) (hc : Clean l)
    (h : (takeBest l acc).2 = some b) : b.ann.body.steps < 255 ∧ b.ann.hdr.src.clock ≠ l.own.clock := by
  obtain ⟨m, hm, _, hl⟩ := erbest_needs_threshold l acc b h
  exact hc m hm _ (List.mem_of_getLast? hl)

/-- **Never stepsRemoved ≥ 255, never the own clock identity, for every history from an empty list**: `Clean` holds of
it and is kept by every step -/
theorem history_clean (acc : Option (List Nat)) (interval : Int) (own : PortId) (ops : List FOp) :
    ∀ o ∈ (fmlRun acc (emptyFML interval own) ops).2, ∀ b, o = some b →
      b.ann.body.steps < 255 ∧ b.ann.hdr.src.clock ≠ own.clock := by
  refine fmlRun_outputs acc (fun l => Clean l ∧ l.own = own) (fun _ => True) _
    (fun l op h _ => ⟨clean_step acc l op h.1, (fmlStep_params acc l op).own.trans h.2⟩)
    (fun l b h hb => h.2 ▸ erbest_clean l acc b h.1 hb) ops _ ⟨fun m hm => (nomatch hm), rfl⟩ (fun _ _ => trivial)

def Fresh (l : FML) : Prop := ∀ m ∈ l.masters, ∀ r ∈ m.recs, r.age < l.cutoff

/-- **Only Announces inside the window count**: right after any BMCA run (it ends with `step_age`) every stored record — hence
every record the next run can qualify on — is younger than 4 announce intervals (`cutoff_eq`). -/
theorem fresh_stepAge (l : FML) (s : Int) : Fresh (l.stepAge s) := by
  intro m hm r hr
  obtain ⟨m0, _, rfl⟩ := List.mem_map.1 (List.mem_filter.1 hm).1
  exact purge_age _ _ r hr

def MinAge (l : FML) (src : PortId) (t : Int) : Prop := ∀ m ∈ l.masters, m.id = src → ∀ r ∈ m.recs, t ≤ r.age

theorem hered_minAge (src : PortId) (t : Int) : Hered (fun m => m.id = src → ∀ r ∈ m.recs, t ≤ r.age) :=
  (hered_recs fun _ r => t ≤ r.age).of_id (· = src)

theorem minAge_stepAge (l : FML) (src : PortId) (t s : Int) (h : MinAge l src t) : MinAge (l.stepAge s) src (t + s) :=
  stepAge_all (hered_minAge src (t + s)) l s
    (fun _ hm hid r hr => by
      obtain ⟨r0, hr0, rfl⟩ := List.mem_map.1 hr
      exact Int.add_le_add_right (hm hid r0 hr0) s) h

/-- the record has to go to an entry that is there: a new entry would hold it with age 0 -/
theorem minAge_register (l : FML) (a : Ann) (age : Int) (src : PortId) (t : Int)
    (hage : a.hdr.src = src → t ≤ age ∧ ∃ m0 ∈ l.masters, m0.id = a.hdr.src) (h : MinAge l src t) :
    MinAge (l.register a age) src t := by
  refine register_all l a age (fun _ hm => hm) (fun _ m he hm hid r hr => ?_) (fun _ hn hid => absurd (hage hid).2 hn) h
  rw [register_id] at hid
  rcases register_recs _ _ _ _ r hr with h1 | rfl
  · exact hm hid r h1
  · exact (hage (he.symm.trans hid)).1

theorem minAge_bmca (acc : Option (List Nat)) (l : FML) (src : PortId) (t s : Int) (hf : Filed l)
    (h : MinAge l src t) : MinAge (fmlStep acc l (.bmca s)).1 src (t + s) := by
  refine minAge_stepAge _ src t s ?_
  have h1 : MinAge (tqList l) src t := tqList_all (hered_minAge src t) l h
  rcases takeBest_list l acc with e | ⟨b, hb, e⟩ <;> rw [e]
  · exact h1
  · -- what is registered again was the newest record of `m0`, filed under its sender: `m0` is still listed, and the
    -- record keeps its age
    obtain ⟨m0, hm0, _, hl⟩ := erbest_needs_threshold l acc b hb
    have hrm : (⟨b.ann, b.age⟩ : FRec) ∈ m0.recs := List.mem_of_getLast? hl
    have hsrc : b.ann.hdr.src = m0.id := hf m0 hm0 _ hrm
    exact minAge_register _ _ _ src t (fun hs => ⟨h m0 hm0 (hsrc.symm.trans hs) _ hrm,
      _, List.mem_map_of_mem hm0, by rw [(tq1_shrinks m0).id, hsrc]⟩) h1

/-- a record left would be both at least `t + s` old and inside the window -/
theorem bmca_expires (acc : Option (List Nat)) (l : FML) (src : PortId) (t s : Int) (hf : Filed l)
    (hm : MinAge l src t) (h : l.cutoff ≤ t + s) : ∀ m ∈ (fmlStep acc l (.bmca s)).1.masters, m.id ≠ src := by
  intro m hmem hid
  obtain ⟨r, hr⟩ := stepAge_nonempty _ s m hmem
  have a1 := minAge_bmca acc l src t s hf hm m hmem hid r hr
  have a2 : r.age < (fmlStep acc l (.bmca s)).1.cutoff := fresh_stepAge _ s m hmem r hr
  rw [(fmlStep_params acc l (.bmca s)).cutoff] at a2
  exact Int.lt_irrefl _ (Int.lt_of_lt_of_le (Int.lt_of_le_of_lt a1 a2) h)

/-- the steps may have any sign -/
theorem silent_sender_expires (acc : Option (List Nat)) (src : PortId) (steps : List Int) :
    ∀ (l : FML) (t : Int), Filed l → MinAge l src t → steps ≠ [] → l.cutoff ≤ t + steps.sum →
      ∀ m ∈ (fmlRun acc l (steps.map .bmca)).1.masters, m.id ≠ src := by
  induction steps with
  | nil => intro _ _ _ _ h; exact absurd rfl h
  | cons s rest ih =>
    intro l t hf hm _ hsum
    rw [List.sum_cons] at hsum
    rw [List.map_cons, fmlRun_cons]
    cases rest with
    | nil =>
      rw [List.sum_nil, Int.add_zero] at hsum
      rw [List.map_nil, fmlRun_nil]
      exact bmca_expires acc l src t s hf hm hsum
    | cons s2 rest2 =>
      refine ih (fmlStep acc l (.bmca s)).1 (t + s) (filed_step acc l (.bmca s) hf) (minAge_bmca acc l src t s hf hm)
        (List.cons_ne_nil _ _) ?_
      rw [(fmlStep_params acc l (.bmca s)).cutoff, Int.add_assoc]
      exact hsum

/-- **Silence expires.** If no Announce arrives while BMCA runs whose steps add up to the window
(4 announce intervals) or more go by, no record of `src` is left — it can no longer be selected. -/
theorem silence_expires (acc : Option (List Nat)) (src : PortId) (steps : List Int) :
    ∀ (l : FML) (t : Int), Filed l → MinAge l src t → (∀ s ∈ steps, 0 ≤ s) → steps ≠ [] →
      l.cutoff ≤ t + steps.sum →
      ∀ m ∈ (fmlRun acc l (steps.map .bmca)).1.masters, m.id ≠ src :=
  fun l t hf hm _ => silent_sender_expires acc src steps l t hf hm

/-! ### a master that keeps announcing is never dropped

The others lose their newest record on every run and are not re-registered (`atMost_one_bmca` above is the one-record
instance of that); what the list looks like between any two steps is `Multi.Entry` of `Lemmas/FmlMulti.lean`. The port
that hears one foreign master only is the case without others, `steady_master_is_never_dropped`. -/

structure Round where
  before : List Ann
  a : Ann
  after : List Ann
  s : Int

def Round.ops (r : Round) : List FOp :=
  r.before.map .announce ++ [.announce r.a] ++ r.after.map .announce ++ [.bmca r.s]

def mrounds : List Round → List FOp
  | [] => []
  | r :: rs => r.ops ++ mrounds rs

/-- what the steps of the rounds report: nothing for an Announce, the steady master's Announce of the round as Erbest
for the BMCA run -/
def mexpected (own : PortId) : List Round → List (Option Best)
  | [] => []
  | r :: rs => List.replicate r.before.length none ++ [none] ++ List.replicate r.after.length none ++ [some ⟨r.a, 0, own⟩] ++ mexpected own rs

/-- `G` is what is known of the steady master's Announces (its grandmaster and priority1, say): each of them satisfies
`G`, and the others may announce anything that loses the data set comparison against every Announce satisfying `G`
(`Multi.SOther`) -/
def MChain (c : Steady.Ctx) (G : Ann → Prop) (cutoff : Int) : Nat → List Round → Prop
  | _, [] => True
  | q, r :: rs => (∀ a' ∈ r.before ++ r.after, Multi.SOther c G a') ∧ Steady.Next c q r.a ∧ G r.a ∧ r.s < cutoff ∧
      MChain c G cutoff r.a.hdr.seq rs

theorem others_entry (c : Steady.Ctx) (G : Ann → Prop) (as : List Ann) : ∀ (l : FML) (rs : List FRec),
    Multi.Entry c G l rs → (∀ a' ∈ as, Multi.SOther c G a') →
    (fmlRun c.acc l (as.map .announce)).2 = List.replicate as.length none ∧
    Multi.Entry c G (fmlRun c.acc l (as.map .announce)).1 rs := by
  induction as with
  | nil => intro l rs h _; exact ⟨rfl, h⟩
  | cons a as ih =>
    intro l rs h hs
    have := ih _ rs (Multi.entry_announce_other c G l rs a h (hs a List.mem_cons_self))
      (fun x hx => hs x (List.mem_cons_of_mem _ hx))
    rw [List.map_cons, fmlRun_cons]
    exact ⟨congrArg (none :: ·) this.1, this.2⟩

theorem one_round (c : Steady.Ctx) (G : Ann → Prop) (hl : c.Listens) (r : Round) (l : FML) (recs : List FRec) (r0 : FRec)
    (hpos : 0 < c.cutoff) (hp : Multi.Entry c G l (recs ++ [r0]))
    (hb : ∀ a' ∈ r.before ++ r.after, Multi.SOther c G a') (hn : Steady.Next c r0.ann.hdr.seq r.a) (hG : G r.a)
    (hs : r.s < c.cutoff) :
    (fmlRun c.acc l r.ops).2 =
      List.replicate r.before.length none ++ [none] ++ List.replicate r.after.length none ++ [some ⟨r.a, 0, c.own⟩] ∧
    ∃ recs', Multi.Entry c G (fmlRun c.acc l r.ops).1 (recs' ++ [⟨r.a, r.s⟩]) := by
  have h1 := others_entry c G r.before l _ hp (fun x hx => hb x (List.mem_append_left _ hx))
  obtain ⟨recs2, h2⟩ := Multi.entry_announce_src c G _ recs r0 r.a hl hpos h1.2 hn
  have h3 := others_entry c G r.after _ _ h2 (fun x hx => hb x (List.mem_append_right _ hx))
  have h4 := Multi.entry_bmca c G _ recs2 r0 r.a r.s hl hs hn hG h3.2
  unfold Round.ops
  rw [fmlRun_append, fmlRun_append, fmlRun_append]
  dsimp only [fmlRun, fmlStep]
  rw [h1.1, h3.1, h4.1]
  exact ⟨rfl, h4.2⟩

theorem steady_among_others_from_entry (c : Steady.Ctx) (G : Ann → Prop) (hl : c.Listens) (hpos : 0 < c.cutoff)
    (rs : List Round) : ∀ (l : FML) (recs : List FRec) (r0 : FRec), Multi.Entry c G l (recs ++ [r0]) →
      MChain c G c.cutoff r0.ann.hdr.seq rs → (fmlRun c.acc l (mrounds rs)).2 = mexpected c.own rs := by
  induction rs with
  | nil => intro l _ _ _ _; rfl
  | cons r rs ih =>
    intro l recs r0 hp hch
    obtain ⟨hb, hn, hG, hs, hrest⟩ := hch
    obtain ⟨h1, recs', h2⟩ := one_round c G hl r l recs r0 hpos hp hb hn hG hs
    simp only [mrounds, mexpected]
    rw [fmlRun_append, h1, ih _ recs' ⟨r.a, r.s⟩ h2 hrest]

/-- Figure 34, first test -/
theorem dom_of_lower_priority1 (own : PortId) (a a' : Ann) (hgm : a.body.gm ≠ a'.body.gm) (hp : a.body.p1 < a'.body.p1) :
    Multi.Dom own a a' :=
  (Multi.dom_iff_gmKey own a a' hgm).2 (keyCmp_cons_lt _ _ (Int.ofNat_lt.2 hp))

/-- **A master that keeps announcing is never dropped — among other masters.** One of the foreign masters a port hears
(`c.src`) announces once per BMCA period with consecutive sequence numbers modulo 2^16, and each of its Announces
beats, in the data set comparison, everything the others announce (`SOther`; for instance by a lower priority1,
`dom_of_lower_priority1`). The others may announce whatever and whenever they like, between the rounds and inside
them; the list has room for a new entry when the steady master's first Announce arrives (`hroom`). Then, from that
Announce on, every BMCA run — for any number of rounds and sequence-number wraps — reports it as Erbest with the
Announce of that round. The window `l0.cutoff` is 4 announce intervals (`cutoff_eq`), so `hpos` holds whenever the
interval is positive (`cutoff_pos`). -/
theorem steady_master_among_others_is_never_dropped (c : Steady.Ctx) (G : Ann → Prop) (hl : c.Listens) (l0 : FML)
    (hint : l0.interval = c.interval) (hown : l0.own = c.own)
    (hothers : Multi.Others c.src (Multi.SOther c G) l0.masters) (hroom : l0.masters.length < MAX_FOREIGN_MASTERS)
    (a0 : Ann) (hsrc : a0.hdr.src = c.src) (hq : a0.hdr.seq < 65536) (hsteps : a0.body.steps < STEPS_CUTOFF)
    (hpos : 0 < l0.cutoff) (rs : List Round) (hch : MChain c G l0.cutoff a0.hdr.seq rs) :
    (fmlRun c.acc l0 (.announce a0 :: mrounds rs)).2 = none :: mexpected c.own rs := by
  rw [show l0.cutoff = c.cutoff from cutoff_congr _ l0 hint] at hpos hch
  have hp := Multi.entry_first c G l0 a0 hl hint hown hothers hroom hsrc hsteps hpos
  rw [fmlRun_cons]
  exact congrArg (none :: ·) (steady_among_others_from_entry c G hl hpos rs _ [] ⟨a0, 0⟩ hp hch)

def annOf' (clock port seq : Nat) : Ann :=
  ⟨{ src := ⟨clock, port⟩, seq := seq },
   { origin := ⟨0, 0⟩, utcOffset := 0, p1 := 128, clockClass := 248, accuracy := 0xfe, variance := 0xffff, p2 := 128, gm := clock,
     steps := 0, timeSource := 0xa0 }⟩

/-- the hypotheses are met: a steady master with priority1 10 among two others with priority1 200, across the wrap.
The announce interval `65536000000000` is 1 s as a `TimeInterval` (10^9 ns · 2^16); the BMCA periods of `1000` are
`Duration` bits (ns · 2^32), far inside the window of 4 intervals -/
example :
    let c : Steady.Ctx := ⟨65536000000000, ⟨9, 1⟩, none, ⟨5, 1⟩⟩
    let G : Ann → Prop := fun a => a.body.gm = 5 ∧ a.body.p1 = 10
    let good (seq : Nat) : Ann := ⟨{ src := ⟨5, 1⟩, seq := seq }, { (annOf' 5 1 0).body with p1 := 10 }⟩
    let other (clock seq : Nat) : Ann := ⟨{ src := ⟨clock, 1⟩, seq := seq }, { (annOf' clock 1 0).body with p1 := 200 }⟩
    c.Listens ∧ 0 < (emptyFML c.interval c.own).cutoff ∧
    MChain c G (emptyFML c.interval c.own).cutoff 65534
      [⟨[other 7 3], good 65535, [other 8 1], 1000⟩, ⟨[], good 0, [other 7 4, other 8 2], 1000⟩] := by
  intro c G good other
  have hso : ∀ clock seq, clock ≠ 5 → Multi.SOther c G (other clock seq) := fun clock seq hne =>
    ⟨fun h => hne (congrArg PortId.clock h), fun a hG => dom_of_lower_priority1 _ _ _
      (fun e => hne (e.symm.trans hG.1)) (hG.2 ▸ (by decide : 10 < 200))⟩
  refine ⟨by simp only [Steady.Ctx.Listens]; decide +kernel, cutoff_pos _ (by decide) (by decide), ?_⟩
  simp only [MChain, Steady.Next, List.mem_append, List.mem_cons, List.not_mem_nil, or_false, false_or, forall_eq_or_imp,
    forall_eq]
  refine ⟨⟨hso 7 3 (by decide), hso 8 1 (by decide)⟩, ⟨rfl, by decide, by decide⟩, ⟨rfl, rfl⟩, by decide +kernel,
    ⟨hso 7 4 (by decide), hso 8 2 (by decide)⟩, ⟨rfl, by decide, by decide⟩, ⟨rfl, rfl⟩, by decide +kernel, trivial⟩

def rounds : List (Ann × Int) → List FOp
  | [] => []
  | (a, s) :: rs => .announce a :: .bmca s :: rounds rs

def Chain (c : Steady.Ctx) (cutoff : Int) : Nat → List (Ann × Int) → Prop
  | _, [] => True
  | q, (a, s) :: rs => Steady.Next c q a ∧ s < cutoff ∧ Chain c cutoff a.hdr.seq rs

def expected (own : PortId) : List (Ann × Int) → List (Option Best)
  | [] => []
  | (a, _) :: rs => none :: some ⟨a, 0, own⟩ :: expected own rs

def soloRound (r : Ann × Int) : Round := ⟨[], r.1, [], r.2⟩

theorem mrounds_solo (rs : List (Ann × Int)) : mrounds (rs.map soloRound) = rounds rs := by
  induction rs with
  | nil => rfl
  | cons r rs ih =>
    rw [List.map_cons, mrounds, ih]
    rfl

theorem mexpected_solo (own : PortId) (rs : List (Ann × Int)) :
    mexpected own (rs.map soloRound) = expected own rs := by
  induction rs with
  | nil => rfl
  | cons r rs ih =>
    rw [List.map_cons, mexpected, ih]
    rfl

theorem mchain_solo (c : Steady.Ctx) (cutoff : Int) (rs : List (Ann × Int)) :
    ∀ q, Chain c cutoff q rs → MChain c (fun _ => True) cutoff q (rs.map soloRound) := by
  induction rs with
  | nil => intro _ _; trivial
  | cons r rs ih =>
    intro q h
    obtain ⟨hnext, hs, hrest⟩ := h
    exact ⟨fun _ h' => (nomatch h'), hnext, trivial, hs, ih _ hrest⟩

/-- **A master that keeps announcing is never dropped** (one foreign master on the port): starting
from an empty list, after the first Announce every round of "next Announce, BMCA run" — for any
number of rounds, across any number of sequence-number wraps — reports that master as Erbest with
the round's Announce. In particular it qualifies on its second Announce and never loses
qualification. -/
theorem steady_master_is_never_dropped (c : Steady.Ctx) (hl : c.Listens) (a0 : Ann) (rs : List (Ann × Int))
    (hsrc : a0.hdr.src = c.src) (hq : a0.hdr.seq < 65536) (hsteps : a0.body.steps < STEPS_CUTOFF)
    (hpos : 0 < (emptyFML c.interval c.own).cutoff)
    (hch : Chain c (emptyFML c.interval c.own).cutoff a0.hdr.seq rs) :
    (fmlRun c.acc (emptyFML c.interval c.own) (.announce a0 :: rounds rs)).2 = none :: expected c.own rs := by
  rw [← mrounds_solo, ← mexpected_solo]
  exact steady_master_among_others_is_never_dropped c (fun _ => True) hl (emptyFML c.interval c.own) rfl rfl
    (Multi.others_nil _ _) (Nat.zero_lt_succ _) a0 hsrc hq hsteps hpos _ (mchain_solo c _ rs _ hch)

/-- the hypotheses are met across the wrap: sequence numbers 65534, 65535, 0, 1 (interval 1 s, periods far inside the
window, as in the example above) -/
example :
    let c : Steady.Ctx := ⟨65536000000000, ⟨9, 1⟩, none, ⟨5, 1⟩⟩
    c.Listens ∧ 0 < (emptyFML c.interval c.own).cutoff ∧
    Chain c (emptyFML c.interval c.own).cutoff 65534
      [(annOf' 5 1 65535, 1000), (annOf' 5 1 0, 1000), (annOf' 5 1 1, 1000)] := by
  simp only [Chain, Steady.Next, Steady.Ctx.Listens]
  decide +kernel

/-- the successor sequence number (mod 2^16) is always accepted, across the wrap as well -/
theorem seqStale_next (last : Nat) (h : last < 65536) : seqStale ((last + 1) % 65536) last = false :=
  seqStale_succ last

/-- a sequence number up to 32766 after the last stored one (mod 2^16) is accepted. So is the same number again
(difference 0): this is the known finding `parent-on-duplicated-single-announce` -/
theorem seqStale_iff (new last : Nat) (hn : new < 65536) (hl : last < 65536) :
    seqStale new last = false ↔ (new + 65536 - last) % 65536 < 32767 :=
  seqStale_eq_false new last

theorem duplicate_accepted (s : Nat) (h : s < 65536) : seqStale s s = false :=
  (seqStale_eq_false s s).2 (by rw [Nat.add_sub_cancel_left]; decide)

def annOf (clock port seq steps : Nat) : Ann :=
  ⟨{ src := ⟨clock, port⟩, seq := seq },
   { origin := ⟨0, 0⟩, utcOffset := 0, p1 := 128, clockClass := 248, accuracy := 0xfe, variance := 0xffff, p2 := 128, gm := clock,
     steps := steps, timeSource := 0xa0 }⟩

/-- announce interval 1 s -/
def sampleList : FML := emptyFML 65536000000000 ⟨9, 1⟩

def lastQualified (ops : List FOp) : Option Bool := (fmlRun none sampleList ops).2.getLast?.map (·.isSome)

/-- two Announces then a BMCA run do qualify; one does not; a stale sequence id does not count -/
example :
    lastQualified [.announce (annOf 5 1 10 0), .announce (annOf 5 1 11 0), .bmca 1000] = some true ∧
    lastQualified [.announce (annOf 5 1 10 0), .bmca 1000] = some false ∧
    lastQualified [.announce (annOf 5 1 10 0), .announce (annOf 5 1 9 0), .bmca 1000] = some false := by
  decide +kernel

/-! ### the qualification rules as translated from the source on this run
(`translator/extract_qualified.py` → `Generated/Qualification.lean`, interpreter `Lemmas/QualGen.lean`; for the shape
of statement and proof see the head of the section `Translated` of Props/C05.lean) -/
section Translated
open Statime.QualGen

/-- **`is_announce_message_qualified` as translated on this run is the model's `FML.qualified`**: the own-clock
rule, the sequence-number freshness rule against the last stored message of that master (operator and bound,
`u16::MAX / 2` and named constants evaluated) and the stepsRemoved cut-off (operator and bound) -/
theorem generated_qualification_is_model (l : FML) (a : Ann) :
    ∀ rules, Generated.qualificationRules = some rules → evalQualified rules l a = l.qualified a := by
  intro rules h
  cases h
  all_goals (
    unfold evalQualified FML.qualified FML.stale
    simp only [List.all_cons, List.all_nil, Bool.and_true, QRule.rejects, exceeds, seqStale, SEQ_HALF, STEPS_CUTOFF, if_true]
    -- the source rejects on `==` and `>=`, the model accepts on `≠` and `<`
    rw [← decide_not, ← decide_not, decide_eq_decide.2 (Nat.not_le (a := 255) (b := a.body.steps)), Bool.and_assoc]
    rfl)

end Translated

end Statime.C06
