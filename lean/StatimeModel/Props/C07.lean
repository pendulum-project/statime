import StatimeModel.Lemmas.Step
import StatimeModel.Lemmas.Slave
/-
C07 — Traffic from unselected, unacceptable or foreign-domain sources has no effect.

A frame of the property's classes, judged in the state it arrives in (`IgnoredFrame`), changes neither the port nor
the instance state, produces no action, timer, measurement or clock call, and cannot panic; so inserting such frames
anywhere into a history changes nothing that is observed.

Tie: the `c07` stream runs every generated history twice on the real ports — with and without
inserted frames of these classes — and requires identical observations (two-run oracle); on every
inserted op the same stream compares the model with the implementation (no output, state unchanged).
-/
namespace Statime.C07
open Statime

def IgnoredFrame (p : Port) (s : InstState) (data : List UInt8) : Prop :=
  -- another domain or sdoId, a PTP version other than 2, or otherwise malformed
  parseAndFilter s data = none ∨
  ∃ m, parseAndFilter s data = some m ∧
    match m.body with
    -- Announce bearing the port's own identity, or from a clock outside the acceptable master list
    -- (and not the currently selected parent: the parent was accepted when it was selected)
    | .announce _ =>
        (m.header.src = p.id ∨ acceptable p.cfg.acceptable m.header.src.clock = false) ∧
        ¬ (p.st.isSlave = true ∧ m.header.src = s.parent.parentPort)
    -- Sync / Follow_Up not sent by the currently selected parent
    | .sync _ | .followUp _ => ∀ remote sy d l, p.st = .slave remote sy d l → remote ≠ m.header.src
    -- Delay_Resp answering someone else's request, or not sent by the parent
    | .delayResp _ req => ∀ remote sy d l, p.st = .slave remote sy d l → (p.id ≠ req ∨ remote ≠ m.header.src)
    | _ => False

theorem handleAnnounce_unacceptable (p : Port) (s : InstState) (m : Msg) (ab : AnnounceBody)
    (hbad : m.header.src = p.id ∨ acceptable p.cfg.acceptable m.header.src.clock = false)
    (hnp : ¬ (p.st.isSlave = true ∧ m.header.src = s.parent.parentPort))
    (hown : p.fml.own = p.id) :
    p.handleAnnounce s m ab = .ok (p, s, []) := by
  have hreg : bmcaRegister p.fml p.cfg.acceptable ⟨m.header, ab⟩ = (p.fml, false) := by
    unfold bmcaRegister
    rw [if_neg]
    intro ⟨h1, h2⟩
    rcases hbad with e | e
    · exact h1 (by rw [hown]; exact e)
    · rw [e] at h2; cases h2
  have hupd : p.announceUpdate s m ⟨m.header, ab⟩ = .ok (s, false) := by
    unfold Port.announceUpdate
    rw [if_neg hnp]
  have hr : p.announceRegister m ⟨m.header, ab⟩ = (p, []) := by
    unfold Port.announceRegister
    rw [hreg]
    simp
  unfold Port.handleAnnounce
  rw [hupd]
  simp only [Bool.false_eq_true, if_false, hr]

/-- every port the model creates files its foreign masters under its own identity (`Port.new_spec`); it is part of
`C08.PortsWF`, hence of `C08.Inv`, which `C08.reachable_inv` shows of every instance a good history reaches -/
def PortOK (p : Port) : Prop := p.fml.own = p.id

/-- **An ignored frame is a no-op**, on the general and on the event interface, at any receive time. -/
theorem ignored_noop (p : Port) (s : InstState) (data : List UInt8) (ts : Nat) (hp : PortOK p)
    (h : IgnoredFrame p s data) :
    p.handleGeneralReceive s data = .ok (p, s, []) ∧ p.handleEventReceive s data ts = .ok (p, s, []) := by
  unfold Port.handleGeneralReceive Port.handleEventReceive
  rcases h with h | ⟨m, hm, hc⟩
  · rw [h]; exact ⟨rfl, rfl⟩
  · rw [hm]
    dsimp only
    unfold Port.handleGeneralInternal
    generalize m.body = b at hc ⊢
    cases b with
    | announce ab =>
      have := handleAnnounce_unacceptable p s m ab hc.1 hc.2 hp
      exact ⟨this, this⟩
    | sync o =>
      dsimp only
      rw [handleSync_other p m.header o ts hc]
      exact ⟨rfl, rfl⟩
    | followUp o =>
      dsimp only
      rw [handleFollowUp_other p m.header o hc]
      exact ⟨rfl, rfl⟩
    | delayResp rx req =>
      dsimp only
      rw [handleDelayResp_other p m.header rx req hc]
      exact ⟨rfl, rfl⟩
    | _ => exact hc.elim

def IgnoredOp (i : Inst) : Op → Prop
  | .gen k data => ∃ p, portAt i.ports k = some p ∧ PortOK p ∧ IgnoredFrame p i.st data
  | .evt k data _ => ∃ p, portAt i.ports k = some p ∧ PortOK p ∧ IgnoredFrame p i.st data
  | _ => False

theorem step_ignored (i : Inst) (op : Op) (h : IgnoredOp i op) : i.step op = .ok (i, [], 0) := by
  cases op with
  | gen k data =>
    obtain ⟨p, hp, hok, hf⟩ := h
    simp only [Inst.step, Inst.portHandler, Inst.withPort, hp, (ignored_noop p i.st data 0 hok hf).1, Except.map, tag,
      List.map_nil, setPort_same hp]
  | evt k data ts =>
    obtain ⟨p, hp, hok, hf⟩ := h
    simp only [Inst.step, Inst.portHandler, Inst.withPort, hp, (ignored_noop p i.st data ts hok hf).2, Except.map, tag,
      List.map_nil, setPort_same hp]
  | _ => exact h.elim

/-- the final state (or the panic) and the observations: actions, timers, forwarded TLVs, measurements, filter and
clock calls, in order -/
def run (i : Inst) : List Op → (Except Panic Inst) × Obs
  | [] => (.ok i, [])
  | op :: ops =>
    match i.step op with
    | .error e => (.error e, [])
    | .ok (i', o, _) =>
      let (r, os) := run i' ops
      (r, o ++ os)

/-- `Inserted i h h'`: `h'` is `h` with ignored frames inserted at arbitrary positions — ignoredness
being judged in the state reached at that point -/
inductive Inserted : Inst → List Op → List Op → Prop
  | nil (i : Inst) : Inserted i [] []
  | keep (i i' : Inst) (op : Op) (o : Obs) (q : Nat) (h h' : List Op) :
      i.step op = .ok (i', o, q) → Inserted i' h h' → Inserted i (op :: h) (op :: h')
  | stop (i : Inst) (op : Op) (e : Panic) (h h' : List Op) : i.step op = .error e → Inserted i (op :: h) (op :: h')
  | insert (i : Inst) (op : Op) (h h' : List Op) : IgnoredOp i op → Inserted i h h' → Inserted i h (op :: h')

/-- **Non-interference.** The run with insertions is observationally identical to the run without:
same observation trace, same final port states and data sets (or the same panic at the same point). -/
theorem noninterference (i : Inst) (h h' : List Op) (hins : Inserted i h h') : run i h' = run i h := by
  induction hins with
  | nil i => rfl
  | keep i i' op o q h h' hs _ ih => simp only [run, hs, ih]
  | stop i op e h h' hs => simp only [run, hs]
  | insert i op h h' hig _ ih =>
    simp only [run, step_ignored i op hig]
    rw [ih]
    cases hr : run i h with
    | mk r os => simp

/-! ### Non-vacuity: a concrete foreign-domain Announce is ignored by a listening port -/

def samplePort : Port :=
  { cfg := { acceptable := none, p2p := false, delayLog := 0, announceLog := 0, receiptTimeout := 3, syncLog := 0,
             masterOnly := false, delayAsymmetry := 0, minorVersion := 1 },
    id := ⟨7, 1⟩, st := .listening, fml := { masters := [], interval := 65536000000000, own := ⟨7, 1⟩ },
    multiportDisable := none, annSeq := 0, syncSeq := 0, delaySeq := 0, pdelaySeq := 0, meanDelay := none, peer := .empty }

def sampleState : InstState :=
  { dflt := { clockIdentity := 7, numberPorts := 1, quality := ⟨248, 0xfe, 0xffff⟩, p1 := 128, p2 := 128, domain := 0,
              slaveOnly := false, sdoId := 0 },
    stepsRemoved := 0, parent := { parentPort := ⟨7, 0⟩, gmIdentity := 7, gmQuality := ⟨248, 0xfe, 0xffff⟩, gmP1 := 128, gmP2 := 128 },
    pathTrace := [], pathEnable := false, tp := defaultTimeProps }

def foreignAnnounce : List UInt8 :=
  encode { header := { domain := 5, src := ⟨9, 1⟩, seq := 3 },
           body := .announce { origin := ⟨0, 0⟩, utcOffset := 37, p1 := 1, clockClass := 6, accuracy := 0x20, variance := 1,
                               p2 := 1, gm := 9, steps := 0, timeSource := 0x20 },
           suffix := [] }

example : PortOK samplePort ∧ parseAndFilter sampleState foreignAnnounce = none ∧
    (decode foreignAnnounce).toOption.isSome = true := by
  exact ⟨rfl, by decide +kernel⟩

end Statime.C07
