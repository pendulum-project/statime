import StatimeModel.Lemmas.StepAt
import StatimeModel.Lemmas.PortStep
import StatimeModel.Generated.ReceiptTimer
import StatimeModel.Props.C05
/-
C08 — Ports act only within their role; at most one port steers the clock.

`Inst.step` is the whole host-call alphabet. The invariants below are proved for one step from any
state satisfying them, hence for every reachable state (`reachable_inv`).

Tie: the `inst` stream (1–3 ports, every combination of master-only / slave-only / E2E / P2P, runtime
slave-only and quality changes) compares port states, emitted message types and servo input with the
model; the role oracle checks the same predicates on the implementation's observations.

Props.C05 is imported for `C05.generated_port_move_is_model` (`set_recommended_port_state` as translated on this
run), which the checks of C08 and C12 audit together with this file's theorems.
-/
namespace Statime.C08
open Statime

/-- structural well-formedness of an instance: port k has port number k, files its foreign masters
under its own identity, and `numberPorts` counts the ports -/
def PortsWF (i : Inst) : Prop :=
  i.st.dflt.numberPorts = i.ports.length ∧
  ∀ (j : Nat) (p : Port), i.ports[j]? = some p → p.id = ⟨i.st.dflt.clockIdentity, j + 1⟩ ∧ p.fml.own = p.id

def AtMostOneSlave (ports : List Port) : Prop :=
  ∀ (j j' : Nat) (p p' : Port), ports[j]? = some p → ports[j']? = some p' →
    p.st.isSlave = true → p'.st.isSlave = true → j = j'

def NoMasterOnlySlave (ports : List Port) : Prop :=
  ∀ (j : Nat) (p : Port), ports[j]? = some p → p.cfg.masterOnly = true → p.st.isSlave = false

def Inv (i : Inst) : Prop := PortsWF i ∧ AtMostOneSlave i.ports ∧ NoMasterOnlySlave i.ports

theorem PortsWF.count {i : Inst} (h : PortsWF i) : i.st.dflt.numberPorts = i.ports.length := h.1

theorem PortsWF.id {i : Inst} {j : Nat} {p : Port} (h : PortsWF i) (hp : i.ports[j]? = some p) :
    p.id = ⟨i.st.dflt.clockIdentity, j + 1⟩ := (h.2 j p hp).1

theorem PortsWF.own {i : Inst} {j : Nat} {p : Port} (h : PortsWF i) (hp : i.ports[j]? = some p) : p.fml.own = p.id :=
  (h.2 j p hp).2

theorem Inv.wf {i : Inst} (h : Inv i) : PortsWF i := h.1

theorem Inv.oneSlave {i : Inst} (h : Inv i) : AtMostOneSlave i.ports := h.2.1

theorem Inv.noMasterOnlySlave {i : Inst} (h : Inv i) : NoMasterOnlySlave i.ports := h.2.2

theorem bmca_inv_with (i i' : Inst) (order : List Nat) (step : Int) (obs : Obs) (hnd : order.Nodup)
    (hcov : ∀ j, j < i.ports.length → j + 1 ∈ order) (hinv : Inv i)
    (h : i.bmcaWith order step = .ok (i', obs)) : Inv i' ∧ (∀ x ∈ obs, x.2.plain) ∧
      (i.st.dflt.slaveOnly = true → ∀ (j : Nat) (p' : Port), i'.ports[j]? = some p' → p'.st ≠ .master) ∧
      i'.st.dflt = i.st.dflt := by
  have wf := hinv.wf
  obtain ⟨ebest, lbs, pend, run⟩ := bmcaWith_ran h
  -- a port that is Slave after the run was recommended S1 for Ebest, which it received itself: Ebest names its number.
  -- That it is not master-only is known from the debug assertion of `set_recommended_port_state` having passed.
  have slaveS1 : ∀ (j : Nat) (p' : Port), i'.ports[j]? = some p' → p'.st.isSlave = true →
      p'.cfg.masterOnly = false ∧ ∃ g, ebest = some g ∧ g.identity = ⟨i.st.dflt.clockIdentity, j + 1⟩ := by
    intro j p' hp' hs
    obtain ⟨p, hp⟩ := run.back hp'
    obtain ⟨a, ha, hmo⟩ := (run.visited hnd hcov hp hp').slave hs
    cases recommend_cases ha with
    | @s1 g _ worse here =>
      exact ⟨(run.fixed hp hp').cfg ▸ hmo, g, compareD0Best_worse worse,
        ((run.erbest hp here).trans (wf.own hp)).trans (wf.id hp)⟩
  refine ⟨⟨⟨?_, ?_⟩, ?_, ?_⟩, run.plain, ?_, run.dflt⟩
  · rw [run.dflt, run.length]; exact wf.count
  · intro j p' hp'
    obtain ⟨p, hp⟩ := run.back hp'
    have hf := run.fixed hp hp'
    rw [run.dflt, hf.id, hf.own]
    exact ⟨wf.id hp, wf.own hp⟩
  · intro j j' p p' hp hp' hs hs'
    obtain ⟨_, g, hg, hid⟩ := slaveS1 j p hp hs
    obtain ⟨_, g', hg', hid'⟩ := slaveS1 j' p' hp' hs'
    cases hg.symm.trans hg'
    exact Nat.succ.inj (PortId.mk.inj (hid.symm.trans hid')).2
  · intro j p' hp' hmo
    cases hs : p'.st.isSlave with
    | false => rfl
    | true => exact nomatch hmo.symm.trans (slaveS1 j p' hp' hs).1
  · intro hso j p' hp'
    obtain ⟨p, hp⟩ := run.back hp'
    exact (run.visited hnd hcov hp hp').not_master hso

/-- **At most one Slave after every BMCA run**, **a master-only port is never Slave**, and — runtime
slave-only — **no Master port is left once a BMCA run has completed** on a slave-only instance.
(The host passes every port exactly once, as `PtpInstance::bmca` requires.) -/
theorem bmca_inv (i i' : Inst) (order : List Nat) (obs : Obs) (hnd : order.Nodup)
    (hcov : ∀ j, j < i.ports.length → j + 1 ∈ order) (hinv : Inv i)
    (h : i.bmca order = .ok (i', obs)) : Inv i' ∧ (∀ x ∈ obs, x.2.plain) ∧
      (i.st.dflt.slaveOnly = true → ∀ (j : Nat) (p' : Port), i'.ports[j]? = some p' → p'.st ≠ .master) ∧
      i'.st.dflt = i.st.dflt :=
  let ⟨_, step, hw⟩ := bmca_ok h
  bmca_inv_with i i' order step obs hnd hcov hinv hw

theorem inv_setPort (i : Inst) (k : Nat) (p p' : Port) (s' : InstState) (hk : portAt i.ports k = some p)
    (hkeep : KeepsW p p') (hd1 : s'.dflt.clockIdentity = i.st.dflt.clockIdentity)
    (hd2 : s'.dflt.numberPorts = i.st.dflt.numberPorts) (hinv : Inv i) :
    Inv { i with st := s', ports := setPort i.ports k p' } := by
  have wf := hinv.wf
  have back : ∀ (j : Nat) (q' : Port), (setPort i.ports k p')[j]? = some q' → ∃ q, i.ports[j]? = some q ∧ KeepsW q q' := by
    intro j q' hq
    rcases setPort_cases hk p' j with ⟨_, h0, he⟩ | ⟨_, he⟩ <;> rw [he] at hq
    · cases hq
      exact ⟨p, h0, hkeep⟩
    · exact ⟨q', hq, (keeps_refl q').weak⟩
  refine ⟨⟨?_, ?_⟩, ?_, ?_⟩
  · show s'.dflt.numberPorts = (setPort i.ports k p').length
    rw [hd2, wf.count, setPort_length]
  · intro j q' hq
    obtain ⟨q, hq0, kq⟩ := back j q' hq
    show q'.id = ⟨s'.dflt.clockIdentity, j + 1⟩ ∧ q'.fml.own = q'.id
    rw [hd1, kq.id, kq.own]
    exact ⟨wf.id hq0, wf.own hq0⟩
  · intro j j' q q' hq hq' hs hs'
    obtain ⟨y, hy, ky⟩ := back j q hq
    obtain ⟨y', hy', ky'⟩ := back j' q' hq'
    exact hinv.oneSlave j j' y y' hy hy' (ky.noNewSlave hs) (ky'.noNewSlave hs')
  · intro j q' hq hm
    obtain ⟨q, hq0, kq⟩ := back j q' hq
    have hq : q.st.isSlave = false := hinv.noMasterOnlySlave j q hq0 (kq.cfg ▸ hm)
    cases hs : q'.st.isSlave with
    | false => rfl
    | true => rw [kq.noNewSlave hs] at hq; cases hq

/-- the role discipline of every port-level handler: what it keeps of the port (never making it newly Slave), the
default data set, frames and servo input as the role allows, and Master only where the instance may be master -/
theorem portHandler_keeps (i : Inst) (op : Op) (k : Nat) (f : Port → R (Port × InstState × List Out × Nat))
    (hop : i.portHandler op = some (k, f)) (p p' : Port) (s' : InstState) (o : List Out) (q : Nat)
    (h : f p = .ok (p', s', o, q)) :
    KeepsW p p' ∧ s'.dflt = i.st.dflt ∧ Guarded p.st.isMaster p.st.isSlave o ∧
    (p'.st.isMaster = true → p.st.isMaster = true ∨ i.st.dflt.slaveOnly = false) :=
  have hs := (portHandler_call hop h).step
  ⟨hs.keepsW, hs.dflt, hs.guarded, hs.master⟩

theorem addPort_inv (i : Inst) (cfg : PortCfg) (pn : Port) (hinv : Inv i)
    (hn : Port.new cfg ⟨i.st.dflt.clockIdentity, i.st.dflt.numberPorts + 1⟩ = .ok pn) :
    Inv (i.withNewPort cfg pn).1 := by
  have wf := hinv.wf
  obtain ⟨n1, n2, n3⟩ := Port.new_spec _ _ _ hn
  have hns : pn.st.isSlave = false := by rw [n3]; rfl
  refine ⟨⟨?_, ?_⟩, ?_, ?_⟩
  · show i.st.dflt.numberPorts + 1 = (i.ports ++ [pn]).length
    rw [wf.count, List.length_append]
    rfl
  · intro j p hp
    rcases getElem?_concat_some hp with h1 | ⟨hj, rfl⟩
    · exact ⟨wf.id h1, wf.own h1⟩
    · rw [n2, n1, hj, wf.count]
      exact ⟨rfl, rfl⟩
  · intro j j' p p' hp hp' hs hs'
    rcases getElem?_concat_some hp with h1 | ⟨_, rfl⟩
    · rcases getElem?_concat_some hp' with h1' | ⟨_, rfl⟩
      · exact hinv.oneSlave j j' p p' h1 h1' hs hs'
      · rw [hns] at hs'; cases hs'
    · rw [hns] at hs; cases hs
  · intro j p hp hm
    rcases getElem?_concat_some hp with h1 | ⟨_, rfl⟩
    · exact hinv.noMasterOnlySlave j p h1 hm
    · exact hns

/-- a call that is a BMCA run is passed every port once, as `PtpInstance::bmca` requires (written out in `step_inv`,
`GoodHistory` and the property theorems) -/
def BmcaCovers (i : Inst) (op : Op) : Prop :=
  ∀ order, op = .bmca order → order.Nodup ∧ ∀ j, j < i.ports.length → j + 1 ∈ order

/-- **The invariant is preserved by every host call**: frames on either interface, every timer, transmit
timestamps, run-time setting changes, adding a port — and BMCA runs that are passed every port once. -/
theorem step_inv (i i' : Inst) (op : Op) (obs : Obs) (q : Nat) (hinv : Inv i)
    (hb : ∀ order, op = .bmca order → order.Nodup ∧ ∀ j, j < i.ports.length → j + 1 ∈ order)
    (h : i.step op = .ok (i', obs, q)) : Inv i' := by
  cases step_cases h with
  | port hk hc =>
    exact inv_setPort i _ _ _ _ hk hc.step.keepsW (by rw [hc.step.dflt]) (by rw [hc.step.dflt]) hinv
  | idle | setSlaveOnly | setQuality => exact hinv
  | addPort hn => exact addPort_inv i _ _ hinv hn
  | bmca hx => exact (bmca_inv i _ _ _ (hb _ rfl).1 (hb _ rfl).2 hinv hx).1

/-- the role discipline holds of a call in any state: neither the invariant nor anything about the order a BMCA run
is passed is needed -/
theorem step_guarded (i i' : Inst) (op : Op) (obs : Obs) (q : Nat) (h : i.step op = .ok (i', obs, q)) :
    ∀ x ∈ obs, x.2.plain ∨ ∃ p, portAt i.ports x.1 = some p ∧ Guarded p.st.isMaster p.st.isSlave [x.2] := by
  cases step_cases h with
  | @port _ k p p' s' o n hk hc =>
    intro x hx
    obtain ⟨hxk, hxo⟩ := mem_tag.1 hx
    refine Or.inr ⟨p, hxk ▸ hk, fun y hy => ?_⟩
    rw [List.mem_singleton.1 hy]
    exact hc.step.guarded x.2 hxo
  | idle | setSlaveOnly | setQuality => exact fun x hx => nomatch hx
  | addPort =>
    intro x hx
    rw [List.mem_singleton.1 hx]
    exact Or.inl trivial
  | bmca hx =>
    obtain ⟨_, _, _, run⟩ := bmca_ran hx
    exact fun x hxm => Or.inl (run.plain x hxm)

/-- **Role discipline of every action**: whatever a host call makes port k emit, Announce, Sync, Follow_Up and
Delay_Resp come only from a port that was Master when it handled the call, an end-to-end Delay_Req only from the
Slave port, and sync/delay measurements reach a filter only on the Slave port. BMCA runs emit no frames at all. -/
theorem emitters_guarded (i i' : Inst) (op : Op) (obs : Obs) (q : Nat) (hinv : Inv i)
    (hb : ∀ order, op = .bmca order → order.Nodup ∧ ∀ j, j < i.ports.length → j + 1 ∈ order)
    (h : i.step op = .ok (i', obs, q)) :
    ∀ x ∈ obs, x.2.plain ∨ ∃ p, portAt i.ports x.1 = some p ∧ Guarded p.st.isMaster p.st.isSlave [x.2] :=
  step_guarded i i' op obs q h

theorem init_inv (d : DefaultDS) (pt : Bool) (tp : TimeProps) : Inv (Inst.new d pt tp) := by
  refine ⟨⟨rfl, ?_⟩, ?_, ?_⟩
  · intro j p hp; cases hp
  · intro j j' p p' hp; cases hp
  · intro j p hp; cases hp

/-- a host history in which every BMCA run is passed every port exactly once -/
def GoodHistory : Inst → List Op → Prop
  | _, [] => True
  | i, op :: ops =>
    (∀ order, op = .bmca order → order.Nodup ∧ ∀ j, j < i.ports.length → j + 1 ∈ order) ∧
    ∀ i' obs q, i.step op = .ok (i', obs, q) → GoodHistory i' ops

/-- run a history to its end (or first panic) -/
def runTo (i : Inst) : List Op → Option Inst
  | [] => some i
  | op :: ops =>
    match i.step op with
    | .error _ => none
    | .ok (i', _, _) => runTo i' ops

/-- the induction over a history: `P` is kept by every step of a call admitted by `A` -/
theorem runTo_invariant {P : Inst → Prop} {A : Op → Prop}
    (hstep : ∀ i op i' obs q, P i → A op → BmcaCovers i op → i.step op = .ok (i', obs, q) → P i') :
    ∀ (ops : List Op) (i i' : Inst), P i → GoodHistory i ops → (∀ op ∈ ops, A op) →
      runTo i ops = some i' → P i' := by
  intro ops
  induction ops with
  | nil => intro i i' hi _ _ hr; cases hr; exact hi
  | cons op ops ih =>
    intro i i' hi hgh hA hr
    unfold runTo at hr
    split at hr
    · cases hr
    · next i2 obs q hs =>
      exact ih i2 i' (hstep i op i2 obs q hi (hA op List.mem_cons_self) hgh.1 hs) (hgh.2 i2 obs q hs)
        (fun o ho => hA o (List.mem_cons_of_mem _ ho)) hr

theorem step_setting (i i' : Inst) (op : Op) (obs : Obs) (q : Nat) (h : i.step op = .ok (i', obs, q)) :
    i'.st.dflt.slaveOnly = i.st.dflt.slaveOnly ∨ op = .setSlaveOnly i'.st.dflt.slaveOnly := by
  cases step_cases h with
  | port hk hc => exact .inl (congrArg DefaultDS.slaveOnly hc.step.dflt)
  | idle | setQuality | addPort => exact .inl rfl
  | setSlaveOnly => exact .inr rfl
  | bmca hx =>
    obtain ⟨_, _, _, run⟩ := bmca_ran hx
    exact .inl (congrArg DefaultDS.slaveOnly run.dflt)

/-- **Every reachable state**: at most one port is Slave, and a master-only port never is. -/
theorem reachable_inv (d : DefaultDS) (pt : Bool) (tp : TimeProps) (ops : List Op) (i' : Inst)
    (hg : GoodHistory (Inst.new d pt tp) ops) (h : runTo (Inst.new d pt tp) ops = some i') : Inv i' :=
  runTo_invariant (A := fun _ => True) (fun i op i' obs q hi _ hb hs => step_inv i i' op obs q hi hb hs)
    ops _ i' (init_inv d pt tp) hg (fun _ _ => trivial) h

def SlaveOnlyNoMaster (i : Inst) : Prop :=
  i.st.dflt.slaveOnly = true → ∀ (j : Nat) (p : Port), i.ports[j]? = some p → p.st ≠ .master

/-- **No host call other than switching slave-only on creates a Master port on a slave-only instance.** -/
theorem step_slaveOnly (i i' : Inst) (op : Op) (obs : Obs) (q : Nat) (hinv : Inv i) (hb : BmcaCovers i op)
    (hso : SlaveOnlyNoMaster i) (hns : op ≠ .setSlaveOnly true)
    (h : i.step op = .ok (i', obs, q)) : SlaveOnlyNoMaster i' := by
  intro hs j p' hp'
  -- the setting is on afterwards and the call did not switch it on: it was on before
  have hs0 : i.st.dflt.slaveOnly = true :=
    (step_setting i i' op obs q h).elim (fun e => e ▸ hs) fun e => absurd (hs ▸ e) hns
  cases step_at h hp' with
  | same hp => exact hso hs0 j p' hp
  | call hp hc =>
    intro hmm
    rcases hc.step.master ((isMaster_iff _).2 hmm) with h1 | h1
    · exact hso hs0 j _ hp ((isMaster_iff _).1 h1)
    · rw [hs0] at h1; cases h1
  | bmca hop hx =>
    obtain ⟨_, _, noMaster, _⟩ := bmca_inv i _ _ _ (hb _ hop).1 (hb _ hop).2 hinv hx
    exact noMaster hs0 j p' hp'
  | new _ hnew =>
    rw [Port.new_st hnew]
    exact fun h => nomatch h

/-- a history without `setSlaveOnly` keeps `Inv` and the setting, whether or not there are Master ports -/
theorem run_setting (ops : List Op) (i i' : Inst) (hi : Inv i) (hg : GoodHistory i ops)
    (hno : ∀ op ∈ ops, ∀ b, op ≠ .setSlaveOnly b) (hr : runTo i ops = some i') :
    Inv i' ∧ i'.st.dflt.slaveOnly = i.st.dflt.slaveOnly :=
  runTo_invariant (P := fun x => Inv x ∧ x.st.dflt.slaveOnly = i.st.dflt.slaveOnly)
    (fun x op x' obs q hx hA hb hst =>
      ⟨step_inv x x' op obs q hx.1 hb hst, ((step_setting x x' op obs q hst).resolve_right (hA _)).trans hx.2⟩)
    ops i i' ⟨hi, rfl⟩ hg hno hr

theorem run_slaveOnly (ops : List Op) : ∀ (i i' : Inst), Inv i → SlaveOnlyNoMaster i → GoodHistory i ops →
    (∀ op ∈ ops, ∀ b, op ≠ .setSlaveOnly b) → runTo i ops = some i' →
    Inv i' ∧ SlaveOnlyNoMaster i' ∧ i'.st.dflt.slaveOnly = i.st.dflt.slaveOnly := by
  intro i i' hi hs hg hno hr
  refine runTo_invariant (P := fun x => Inv x ∧ SlaveOnlyNoMaster x ∧ x.st.dflt.slaveOnly = i.st.dflt.slaveOnly)
    (A := fun op => ∀ b, op ≠ .setSlaveOnly b) ?_ ops i i' ⟨hi, hs, rfl⟩ hg hno hr
  intro x op x' obs q ⟨h1, h2, h3⟩ hA hb hst
  exact ⟨step_inv x x' op obs q h1 hb hst, step_slaveOnly x x' op obs q h1 hb h2 (hA true) hst,
    ((step_setting x x' op obs q hst).resolve_right (hA _)).trans h3⟩

/-- **An instance configured slave-only from the start never has a Master port**: in every state reachable
through host calls that do not touch the slave-only setting. -/
theorem slave_only_from_start (d : DefaultDS) (pt : Bool) (tp : TimeProps) (ops : List Op) (i' : Inst)
    (hd : d.slaveOnly = true) (hg : GoodHistory (Inst.new d pt tp) ops)
    (hno : ∀ op ∈ ops, ∀ b, op ≠ .setSlaveOnly b) (h : runTo (Inst.new d pt tp) ops = some i') :
    ∀ (j : Nat) (p : Port), i'.ports[j]? = some p → p.st ≠ .master := by
  have h0 : SlaveOnlyNoMaster (Inst.new d pt tp) := fun _ j p hp => by cases hp
  obtain ⟨_, b, c⟩ := run_slaveOnly ops _ i' (init_inv d pt tp) h0 hg hno h
  exact b (c.trans hd)

/-- **Slave-only switched on at run time**: once the next BMCA run has completed, no port is Master — and none
becomes Master afterwards (until the setting is changed again). -/
theorem slave_only_at_runtime (i i1 i2 i3 : Inst) (order : List Nat) (pre post : List Op) (obs : Obs) (q : Nat)
    (hinv : Inv i) (hpre : runTo (i.setSlaveOnly true) pre = some i1)
    (hgpre : GoodHistory (i.setSlaveOnly true) pre) (hnopre : ∀ op ∈ pre, ∀ b, op ≠ .setSlaveOnly b)
    (hord : order.Nodup ∧ ∀ j, j < i1.ports.length → j + 1 ∈ order)
    (hb : i1.step (.bmca order) = .ok (i2, obs, q))
    (hgpost : GoodHistory i2 post) (hnopost : ∀ op ∈ post, ∀ b, op ≠ .setSlaveOnly b)
    (hpost : runTo i2 post = some i3) :
    ∀ (j : Nat) (p : Port), i3.ports[j]? = some p → p.st ≠ .master := by
  -- before the BMCA run Master ports may exist: `pre` is only known to keep `Inv` and the setting
  obtain ⟨hinv1, (hso1 : i1.st.dflt.slaveOnly = true)⟩ :=
    run_setting pre _ i1 (show Inv (i.setSlaveOnly true) from hinv) hgpre hnopre hpre
  obtain ⟨_, _, hx, e⟩ := step_bmca hb
  cases e
  obtain ⟨hinv2, _, hnm, hd⟩ := bmca_inv i1 i2 order obs hord.1 hord.2 hinv1 hx
  obtain ⟨_, b, c⟩ := run_slaveOnly post i2 i3 hinv2 (fun _ => hnm hso1) hgpost hnopost hpost
  exact b (by rw [c, hd]; exact hso1)

/-- **What a port that is not Slave hands to its servo is a peer delay result and nothing else**: no Sync offset and
no Delay_Resp offset, on any host call, in any reachable state. -/
theorem non_slave_port_feeds_peer_delay_only (i i' : Inst) (op : Op) (obs : Obs) (q : Nat) (hinv : Inv i)
    (hb : ∀ order, op = .bmca order → order.Nodup ∧ ∀ j, j < i.ports.length → j + 1 ∈ order)
    (h : i.step op = .ok (i', obs, q)) :
    ∀ (k : Nat) (m : Measurement) (p : Port), (k, Out.measurement m) ∈ obs → portAt i.ports k = some p →
      p.st.isSlave = false → m.rawSync = none ∧ m.rawDelay = none := by
  intro k m p hm hp hs
  rcases emitters_guarded i i' op obs q hinv hb h (k, .measurement m) hm with hpl | ⟨p', hp', hg⟩
  · exact hpl.elim
  · cases hp.symm.trans hp'
    have hsl := (hg (.measurement m) (List.mem_singleton.2 rfl)).2 m rfl
    rw [hs] at hsl
    exact ⟨Option.not_isSome_iff_eq_none.1 fun h => Bool.false_ne_true (hsl (.inl h)),
      Option.not_isSome_iff_eq_none.1 fun h => Bool.false_ne_true (hsl (.inr h))⟩

/-! ### the announce receipt timeout as translated from the source on this run
(`translator/extract_receipt.py` → `Generated/ReceiptTimer.lean`, interpreter `Lemmas/ReceiptGen.lean`) -/
section Translated
open Statime.RcptGen

/-- **`handle_announce_receipt_timer` as translated on this run is the model's `handleReceiptTimer`**: which
condition is tested first (a Faulty port only re-arms the timer), that a slave-only instance goes back to Listening and
everything else becomes Master, and the timer actions of each branch - for every port and instance state. With
`step_slaveOnly` above: a slave-only instance never gets a Master port this way, whatever the port's own flags. -/
theorem generated_receipt_timer_is_model (p : Port) (s : InstState) :
    ∀ t, Generated.receiptTimerTable = some t → evalReceipt t p s = p.handleReceiptTimer s := by
  intro t h
  unfold Generated.receiptTimerTable at h
  -- no goal is left where the translator wrote `none`, one where it wrote a table
  cases h
  all_goals (
    unfold evalReceipt Port.handleReceiptTimer
    simp only [evalEarly, Cond.holds, St.toP, Branch.eval, List.map, Act.out]
    -- the table returns early where the model has its first `if`; that test decided, the two sides are one term
    by_cases h1 : p.st = .faulty
    · simp only [h1, decide_true, if_true]
    · simp only [h1, decide_false, Bool.false_eq_true, if_false]
      rfl)

end Translated

end Statime.C08
