import StatimeModel.Lemmas.Slave
/-
C09 — Offset and delay measurements use one matching exchange, exactly.

The statements are provenance invariants over the history of messages a slave port has been
handed: every stored timestamp comes from a message of the selected parent with the stored
sequence id, and every measurement handed to the filter is the IEEE formula (`Spec/Formulas.lean`,
exact fixed-point arithmetic, 2^-32 ns) of one Sync/Follow_Up pair or one Delay_Req/Delay_Resp
pair with equal sequence ids — whatever the order, duplication or loss of messages.

Tie: the recording filter of the harness receives the real measurements; they are compared
bit-exactly with the model's on generated interleavings (streams `inst`, `swrap`).
-/
namespace Statime.C09
open Statime

/-- what a slave port is handed, as far as the Sync / Delay machinery is concerned -/
inductive SEv
  | sync (h : Header) (origin : WireTs) (ts : Nat)
  | followUp (h : Header) (origin : WireTs)
  | delayTs (id : Nat) (ts : Nat)                          -- transmit timestamp of our Delay_Req `id`
  | delayResp (h : Header) (rx : WireTs) (req : PortId)

/-- `x` is the corrected send time t1' of exchange `id` of master `remote` according to history `H` -/
def SendFrom (remote : PortId) (id : Nat) (H : List SEv) (x : Nat) : Prop :=
  (∃ h o, SEv.followUp h o ∈ H ∧ h.src = remote ∧ h.seq = id ∧ Spec.followUpSend h.correction o = some x) ∨
  (∃ h o ts, SEv.sync h o ts ∈ H ∧ h.src = remote ∧ h.seq = id ∧ h.flags.twoStep = false ∧ Spec.oneStepSend o = some x)

/-- `y` is the corrected receive time t2' of the Sync with sequence id `id` from `remote` -/
def RecvFrom (remote : PortId) (id : Nat) (H : List SEv) (y : Nat) : Prop :=
  ∃ h o ts, SEv.sync h o ts ∈ H ∧ h.src = remote ∧ h.seq = id ∧ Spec.syncRecv h.correction ts = some y

def SyncProv (remote : PortId) (H : List SEv) : SyncSt → Prop
  | .empty => True
  | .measuring id send recv =>
    (∀ x, send = some x → SendFrom remote id H x) ∧ (∀ y, recv = some y → RecvFrom remote id H y)

/-- measurement `m` is the Sync formula of ONE exchange of `remote` in `H` -/
def ExactSync (remote : PortId) (asym : Int) (meanDelay : Option Int) (H : List SEv) (m : Measurement) : Prop :=
  ∃ id x y raw, SendFrom remote id H x ∧ RecvFrom remote id H y ∧ Spec.rawSync x y asym = some raw ∧
    m.rawSync = some raw ∧ m.eventTime = y ∧ m.rawDelay = none ∧ m.delay = none ∧ m.peerDelay = none ∧
    (∀ md, meanDelay = some md → durSub raw md = m.offset) ∧ (meanDelay = none → m.offset = none)

theorem syncProv_measuring (remote : PortId) (H : List SEv) (id : Nat) (send recv : Option Nat) :
    SyncProv remote H (.measuring id send recv) ↔
      ((∀ x, send = some x → SendFrom remote id H x) ∧ (∀ y, recv = some y → RecvFrom remote id H y)) := Iff.rfl

theorem sendFrom_mono {remote id H x} (e : SEv) (h : SendFrom remote id H x) : SendFrom remote id (e :: H) x := by
  rcases h with ⟨h1, o, hm, r⟩ | ⟨h1, o, ts, hm, r⟩
  · exact Or.inl ⟨h1, o, List.mem_cons_of_mem _ hm, r⟩
  · exact Or.inr ⟨h1, o, ts, List.mem_cons_of_mem _ hm, r⟩

theorem recvFrom_mono {remote id H y} (e : SEv) (h : RecvFrom remote id H y) : RecvFrom remote id (e :: H) y := by
  obtain ⟨h1, o, ts, hm, r⟩ := h
  exact ⟨h1, o, ts, List.mem_cons_of_mem _ hm, r⟩

theorem syncProv_mono {remote H} (e : SEv) (s : SyncSt) (h : SyncProv remote H s) : SyncProv remote (e :: H) s := by
  cases s with
  | empty => trivial
  | measuring id send recv => exact ⟨fun x hx => sendFrom_mono e (h.1 x hx), fun y hy => recvFrom_mono e (h.2 y hy)⟩

/-- `extract_measurement` hands over one measurement, of the Sync pair if that is complete and else of the Delay pair:
so that what comes out is a Sync measurement the Sync side assumes `dl.incomplete`, and the Delay side below
`sy.incomplete`. -/
theorem measure_after_sync_update {p p' : Port} {remote : PortId} {sy : SyncSt} {dl : DelaySt} {last : Option Int}
    {outs : List Out} {H : List SEv} (hst : p.st = .slave remote sy dl last) (hp : PeerIdle p) (hd : dl.incomplete)
    (hprov : SyncProv remote H sy) (h : p.timeMeasurement = .ok (p', outs)) :
    ∃ sy' last', p'.st = .slave remote sy' dl last' ∧ SyncProv remote H sy' ∧ p'.peer = p.peer ∧ p'.cfg = p.cfg ∧
      ∀ m, Out.measurement m ∈ outs → ExactSync remote p.cfg.delayAsymmetry p.meanDelay H m := by
  have hm := timeMeasurement_cases p
  rw [h] at hm
  cases hm with
  | nothing => exact ⟨sy, last, hst, hprov, rfl, rfl, (fun _ h => nomatch h)⟩
  | took ht =>
    cases ht with
    | @sync _ id send recv _ _ raw m hst' _ hmm =>
      rw [hst] at hst'; cases hst'
      obtain ⟨hraw, off, rfl, hoff⟩ := syncMeasurement_spec _ _ _ _ _ _ hmm
      refine ⟨.empty, some raw, rfl, trivial, rfl, rfl, fun mm hmem => ?_⟩
      obtain rfl : mm = _ := by simpa using hmem
      exact ⟨id, send, recv, raw, hprov.1 send rfl, hprov.2 recv rfl, hraw, rfl, rfl, rfl, rfl, rfl, hoff⟩
    | delay hst' =>
      rw [hst] at hst'; cases hst'
      exact hd.elim
    | peer hp' => exact absurd hp' (hp _ _ _ _ _ _)
    | recover hp' => exact absurd hp' (hp _ _ _ _ _ _)

theorem exactSync_of_ends {p p' : Port} {Q : Port → Prop} {E : Prop} {x : R (Port × List Out)}
    {outs : List Out} {remote : PortId} {sy : SyncSt} {dl : DelaySt} {last : Option Int} {H : List SEv}
    (hx : Ends p Q E False x) (h : x = .ok (p', outs)) (hst : p.st = .slave remote sy dl last) (hp : PeerIdle p)
    (hd : dl.incomplete) (hprov : SyncProv remote H sy)
    (hQ : ∀ q, Q q → ∃ sy1, q = p.withSlave remote sy1 dl last ∧ SyncProv remote H sy1) :
    ∃ sy' last', p'.st = .slave remote sy' dl last' ∧ SyncProv remote H sy' ∧ p'.peer = p.peer ∧ p'.cfg = p.cfg ∧
      ∀ m, Out.measurement m ∈ outs → ExactSync remote p.cfg.delayAsymmetry p.meanDelay H m := by
  cases hx with
  | stay => cases h; exact ⟨sy, last, hst, hprov, rfl, rfl, (fun _ h => nomatch h)⟩
  | store _ hq =>
    cases h
    obtain ⟨sy1, rfl, h1⟩ := hQ _ hq
    exact ⟨sy1, last, rfl, h1, rfl, rfl, (fun _ h => nomatch h)⟩
  | measure _ hq =>
    obtain ⟨sy1, rfl, h1⟩ := hQ _ hq
    exact measure_after_sync_update (p := p.withSlave remote sy1 dl last) rfl hp hd h1 h
  | ov => cases h
  | fault f => exact f.elim

/-- **Sync side, one step.** Handling a Sync on a slave port keeps the provenance invariant and any
measurement it hands to the filter is the exact formula of one Sync (+ Follow_Up) exchange of the
parent with equal sequence ids. -/
theorem handleSync_exact (p p' : Port) (remote : PortId) (sy : SyncSt) (dl : DelaySt) (last : Option Int)
    (h : Header) (o : WireTs) (ts : Nat) (outs : List Out) (H : List SEv)
    (hst : p.st = .slave remote sy dl last) (hp : PeerIdle p) (hd : dl.incomplete) (hprov : SyncProv remote H sy)
    (hr : p.handleSync h o ts = .ok (p', outs)) :
    ∃ sy' last', p'.st = .slave remote sy' dl last' ∧ SyncProv remote (.sync h o ts :: H) sy' ∧
      p'.peer = p.peer ∧ p'.cfg = p.cfg ∧
      ∀ m, Out.measurement m ∈ outs → ExactSync remote p.cfg.delayAsymmetry p.meanDelay (.sync h o ts :: H) m := by
  refine exactSync_of_ends (handleSync_ends p h o ts) hr hst hp hd (syncProv_mono _ sy hprov) ?_
  rintro _ ⟨hst', hsrc, hc, hsend⟩
  rw [hst] at hst'; cases hst'
  refine ⟨_, rfl, (syncProv_measuring _ _ _ _ _).2 ⟨?_, ?_⟩⟩
  · intro x hx; subst hx
    rcases hsend with e | ⟨recv, rfl⟩ | ⟨h2, _, e⟩
    · cases e
    · exact sendFrom_mono _ (hprov.1 x rfl)
    · exact Or.inr ⟨h, o, ts, List.mem_cons_self, hsrc.symm, rfl, h2, e⟩
  · intro y hy; cases hy; exact ⟨h, o, ts, List.mem_cons_self, hsrc.symm, rfl, hc⟩

/-- **Follow_Up side, one step.** -/
theorem handleFollowUp_exact (p p' : Port) (remote : PortId) (sy : SyncSt) (dl : DelaySt) (last : Option Int)
    (h : Header) (o : WireTs) (outs : List Out) (H : List SEv)
    (hst : p.st = .slave remote sy dl last) (hp : PeerIdle p) (hd : dl.incomplete) (hprov : SyncProv remote H sy)
    (hr : p.handleFollowUp h o = .ok (p', outs)) :
    ∃ sy' last', p'.st = .slave remote sy' dl last' ∧ SyncProv remote (.followUp h o :: H) sy' ∧
      p'.peer = p.peer ∧ p'.cfg = p.cfg ∧
      ∀ m, Out.measurement m ∈ outs → ExactSync remote p.cfg.delayAsymmetry p.meanDelay (.followUp h o :: H) m := by
  refine exactSync_of_ends (handleFollowUp_ends p h o) hr hst hp hd (syncProv_mono _ sy hprov) ?_
  rintro _ ⟨hst', hsrc, hc, hrecv⟩
  rw [hst] at hst'; cases hst'
  refine ⟨_, rfl, (syncProv_measuring _ _ _ _ _).2 ⟨?_, ?_⟩⟩
  · intro x hx; cases hx; exact Or.inl ⟨h, o, List.mem_cons_self, hsrc.symm, rfl, hc⟩
  · intro y hy; subst hy
    rcases hrecv with e | rfl
    · cases e
    · exact recvFrom_mono _ (hprov.2 y rfl)

/-- the stored Delay state only holds the transmit timestamp reported for the stored id and the corrected receive time
of a Delay_Resp of the parent with that id that answers this port (`self`) -/
def DelayProv (self remote : PortId) (H : List SEv) : DelaySt → Prop
  | .empty => True
  | .measuring id send recv =>
    (∀ x, send = some x → SEv.delayTs id x ∈ H) ∧
    (∀ y, recv = some y → ∃ h rx, SEv.delayResp h rx self ∈ H ∧ h.src = remote ∧ h.seq = id ∧
        Spec.delayRecv h.correction rx = some y)

/-- measurement `m` is the delay formula of ONE Delay_Req / Delay_Resp exchange in `H` -/
def ExactDelay (self remote : PortId) (asym : Int) (last : Option Int) (H : List SEv) (m : Measurement) : Prop :=
  ∃ id t3 t4 raw h rx, SEv.delayTs id t3 ∈ H ∧ SEv.delayResp h rx self ∈ H ∧ h.src = remote ∧ h.seq = id ∧
    Spec.delayRecv h.correction rx = some t4 ∧ Spec.rawDelay t3 t4 asym = some raw ∧
    m.rawDelay = some raw ∧ m.eventTime = t3 ∧ m.rawSync = none ∧ m.offset = none ∧ m.peerDelay = none ∧
    (∀ rs, last = some rs → Spec.meanDelay rs raw = m.delay) ∧ (last = none → m.delay = none)

theorem delayProv_measuring (self remote : PortId) (H : List SEv) (id : Nat) (send recv : Option Nat) :
    DelayProv self remote H (.measuring id send recv) ↔
      ((∀ x, send = some x → SEv.delayTs id x ∈ H) ∧
       (∀ y, recv = some y → ∃ h rx, SEv.delayResp h rx self ∈ H ∧ h.src = remote ∧ h.seq = id ∧
          Spec.delayRecv h.correction rx = some y)) := Iff.rfl

theorem delayProv_mono {self remote H} (e : SEv) (s : DelaySt) (h : DelayProv self remote H s) :
    DelayProv self remote (e :: H) s := by
  cases s with
  | empty => trivial
  | measuring id send recv =>
    refine ⟨fun x hx => List.mem_cons_of_mem _ (h.1 x hx), fun y hy => ?_⟩
    obtain ⟨hh, rx, hm, r⟩ := h.2 y hy
    exact ⟨hh, rx, List.mem_cons_of_mem _ hm, r⟩

theorem measure_after_delay_update {p p' : Port} {remote : PortId} {sy : SyncSt} {dl : DelaySt} {last : Option Int}
    {outs : List Out} {H : List SEv} (hst : p.st = .slave remote sy dl last) (hp : PeerIdle p) (hs : sy.incomplete)
    (hprov : DelayProv p.id remote H dl) (h : p.timeMeasurement = .ok (p', outs)) :
    ∃ dl', p'.st = .slave remote sy dl' last ∧ DelayProv p.id remote H dl' ∧
      ∀ m, Out.measurement m ∈ outs → ExactDelay p.id remote p.cfg.delayAsymmetry last H m := by
  have hm := timeMeasurement_cases p
  rw [h] at hm
  cases hm with
  | nothing => exact ⟨dl, hst, hprov, (fun _ h => nomatch h)⟩
  | took ht =>
    cases ht with
    | sync hst' =>
      rw [hst] at hst'; cases hst'
      exact hs.elim
    | @delay _ _ id send recv _ m hst' _ _ hmm =>
      rw [hst] at hst'; cases hst'
      obtain ⟨raw, hraw, dlv, rfl, hdl⟩ := delayMeasurement_spec _ _ _ _ _ hmm
      refine ⟨.empty, Port.noteDelay_st _ _, trivial, fun mm hmem => ?_⟩
      obtain rfl : mm = _ := by simpa using hmem
      obtain ⟨hh, rx, hmem2, e1, e2, e3⟩ := hprov.2 recv rfl
      exact ⟨id, send, recv, raw, hh, rx, hprov.1 send rfl, hmem2, e1, e2, e3, hraw, rfl, rfl, rfl, rfl, rfl, hdl⟩
    | peer hp' => exact absurd hp' (hp _ _ _ _ _ _)
    | recover hp' => exact absurd hp' (hp _ _ _ _ _ _)

theorem exactDelay_of_ends {p p' : Port} {Q : Port → Prop} {E : Prop} {x : R (Port × List Out)}
    {outs : List Out} {remote : PortId} {sy : SyncSt} {dl : DelaySt} {last : Option Int} {H : List SEv}
    (hx : Ends p Q E False x) (h : x = .ok (p', outs)) (hst : p.st = .slave remote sy dl last) (hp : PeerIdle p)
    (hs : sy.incomplete) (hprov : DelayProv p.id remote H dl)
    (hQ : ∀ q, Q q → ∃ dl1, q = p.withSlave remote sy dl1 last ∧ DelayProv p.id remote H dl1) :
    ∃ dl', p'.st = .slave remote sy dl' last ∧ DelayProv p.id remote H dl' ∧
      ∀ m, Out.measurement m ∈ outs → ExactDelay p.id remote p.cfg.delayAsymmetry last H m := by
  cases hx with
  | stay => cases h; exact ⟨dl, hst, hprov, (fun _ h => nomatch h)⟩
  | store _ hq =>
    cases h
    obtain ⟨dl1, rfl, h1⟩ := hQ _ hq
    exact ⟨dl1, rfl, h1, (fun _ h => nomatch h)⟩
  | measure _ hq =>
    obtain ⟨dl1, rfl, h1⟩ := hQ _ hq
    exact measure_after_delay_update (p := p.withSlave remote sy dl1 last) rfl hp hs h1 h
  | ov => cases h
  | fault f => exact f.elim

/-- **Delay side: transmit timestamp of our Delay_Req.** -/
theorem handleDelayTs_exact (p p' : Port) (remote : PortId) (sy : SyncSt) (dl : DelaySt) (last : Option Int)
    (tsId ts : Nat) (outs : List Out) (H : List SEv)
    (hst : p.st = .slave remote sy dl last) (hp : PeerIdle p) (hs : sy.incomplete) (hprov : DelayProv p.id remote H dl)
    (hr : p.handleDelayTs tsId ts = .ok (p', outs)) :
    ∃ dl', p'.st = .slave remote sy dl' last ∧ DelayProv p.id remote (.delayTs tsId ts :: H) dl' ∧
      ∀ m, Out.measurement m ∈ outs → ExactDelay p.id remote p.cfg.delayAsymmetry last (.delayTs tsId ts :: H) m := by
  have hmono := delayProv_mono (SEv.delayTs tsId ts) dl hprov
  refine exactDelay_of_ends (handleDelayTs_ends p tsId ts) hr hst hp hs hmono ?_
  rintro _ ⟨hst'⟩
  rw [hst] at hst'; cases hst'
  exact ⟨_, rfl, (delayProv_measuring _ _ _ _ _ _).2
    ⟨(by intro x hx; cases hx; exact List.mem_cons_self), fun y hy => hmono.2 y hy⟩⟩

/-- **Delay side: Delay_Resp.** -/
theorem handleDelayResp_exact (p p' : Port) (remote : PortId) (sy : SyncSt) (dl : DelaySt) (last : Option Int)
    (h : Header) (rx : WireTs) (req : PortId) (outs : List Out) (H : List SEv)
    (hst : p.st = .slave remote sy dl last) (hp : PeerIdle p) (hs : sy.incomplete) (hprov : DelayProv p.id remote H dl)
    (hr : p.handleDelayResp h rx req = .ok (p', outs)) :
    ∃ dl', p'.st = .slave remote sy dl' last ∧ DelayProv p.id remote (.delayResp h rx req :: H) dl' ∧
      ∀ m, Out.measurement m ∈ outs → ExactDelay p.id remote p.cfg.delayAsymmetry last (.delayResp h rx req :: H) m := by
  have hmono := delayProv_mono (SEv.delayResp h rx req) dl hprov
  refine exactDelay_of_ends (handleDelayResp_ends p h rx req) hr hst hp hs hmono ?_
  rintro _ ⟨hst', hreq, hsrc, hc⟩
  rw [hst] at hst'; cases hst'
  exact ⟨_, rfl, (delayProv_measuring _ _ _ _ _ _).2 ⟨fun x hx => hmono.1 x hx, (by
    intro y hy; cases hy
    exact ⟨h, rx, (by rw [hreq]; exact List.mem_cons_self), hsrc.symm, rfl, hc⟩)⟩⟩

/-! ### Non-vacuity: one clean two-step exchange produces the formula value -/

def slavePort : Port :=
  { cfg := { acceptable := none, p2p := false, delayLog := 0, announceLog := 0, receiptTimeout := 3, syncLog := 0,
             masterOnly := false, delayAsymmetry := 5, minorVersion := 1 },
    id := ⟨7, 1⟩, st := .slave ⟨9, 1⟩ .empty .empty none, fml := { masters := [], interval := 65536000000000, own := ⟨7, 1⟩ },
    multiportDisable := none, annSeq := 0, syncSeq := 0, delaySeq := 0, pdelaySeq := 0, meanDelay := none, peer := .empty }

/-- Sync received at bit pattern 1000·2^16 with correction 10 (2^-16 ns units), Follow_Up origin 0 s 0 ns with
correction 2, asymmetry 5 (2^-32 ns units): raw offset = (1000 − 10)·2^16 − 2·2^16 − 5 -/
example :
    (match slavePort.handleSync { src := ⟨9, 1⟩, seq := 4, flags := { twoStep := true }, correction := 10 } ⟨0, 0⟩ (1000 * 65536) with
     | .ok (p1, _) =>
       (match p1.handleFollowUp { src := ⟨9, 1⟩, seq := 4, correction := 2 } ⟨0, 0⟩ with
        | .ok (_, [.measurement m]) => decide (m.rawSync = some ((1000 - 10) * 65536 - 2 * 65536 - 5) ∧ m.eventTime = 990 * 65536)
        | _ => false)
     | _ => false) = true := by
  decide +kernel

end Statime.C09
