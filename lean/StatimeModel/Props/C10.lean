import StatimeModel.Lemmas.PortStep
import StatimeModel.Lemmas.StepAt
import StatimeModel.Lemmas.WireRoundtrip
import StatimeModel.Props.C16
import StatimeModel.Generated.MsgCtors
/-
C10 — Master-side messages carry exact timestamps and consistent identifiers.

Each master-side reply carries the reported time exactly (timestamp plus correction, truncated as the wire format
demands); what the constructors build decodes again; the numbering along a history (`framesOf`, `seqAfter`) is proved
call by call from `Frames` (Lemmas/Frames.lean).
-/
namespace Statime.C10
open Statime

/-! ### ranges the Rust types guarantee for configuration and identity (u4 / u8 / u16 / u64 / i8 fields) -/

def PortRanges (p : Port) : Prop :=
  p.id.WF ∧ p.cfg.minorVersion < 16 ∧ (-128 ≤ p.cfg.delayLog ∧ p.cfg.delayLog < 128)

theorem PortRanges.idWF {p : Port} (h : PortRanges p) : p.id.WF := h.1
theorem PortRanges.minorLt {p : Port} (h : PortRanges p) : p.cfg.minorVersion < 16 := h.2.1
theorem PortRanges.delayLog {p : Port} (h : PortRanges p) : -128 ≤ p.cfg.delayLog ∧ p.cfg.delayLog < 128 := h.2.2

def DfltRanges (d : DefaultDS) : Prop := d.sdoId < 4096 ∧ d.domain < 256

/-- the sequence counters are `u16`s -/
def SeqsWF (p : Port) : Prop := p.annSeq < 65536 ∧ p.syncSeq < 65536 ∧ p.delaySeq < 65536 ∧ p.pdelaySeq < 65536

theorem SeqsWF.sync {p : Port} (h : SeqsWF p) : p.syncSeq < 65536 := h.2.1
theorem SeqsWF.delay {p : Port} (h : SeqsWF p) : p.delaySeq < 65536 := h.2.2.1
theorem SeqsWF.pdelay {p : Port} (h : SeqsWF p) : p.pdelaySeq < 65536 := h.2.2.2

theorem nextSeq_lt (n : Nat) : nextSeq n < 65536 := Nat.mod_lt _ (by decide)

theorem sync_emitted (p p' : Port) (s : InstState) (outs : List Out) (hm : p.st = .master)
    (h : p.sendSync s = .ok (p', outs)) :
    outs = [.reset .sync (.exact (intervalNs p.cfg.syncLog)),
            .sendEvent (.sync p.syncSeq) (encode (msgSync s.dflt p.id p.syncSeq p.cfg.minorVersion)) false] ∧
    p' = { p with syncSeq := (p.syncSeq + 1) % 65536 } ∧
    (msgSync s.dflt p.id p.syncSeq p.cfg.minorVersion).header.seq = p.syncSeq ∧
    (msgSync s.dflt p.id p.syncSeq p.cfg.minorVersion).header.flags.twoStep = true := by
  rw [sendSync_master s hm] at h; cases h
  exact ⟨rfl, rfl, rfl, rfl⟩

/-- **Follow_Up exactness**: when the transmit timestamp `ts` of Sync number `id` is reported, a Master port emits
exactly one Follow_Up, numbered `id`, whose origin timestamp plus correction equals `ts` truncated to 2^-16 ns;
for every `ts` in the PTP range. -/
theorem followUp_exact (p : Port) (s : InstState) (id ts : Nat) (hm : p.st = .master) (hts : ts < C16.TMAX) :
    ∃ m w b, p.handleSyncTs s id ts = .ok (p, [.sendGeneral (encode m) false]) ∧
      m.body = .followUp w ∧ m.header.seq = id ∧ m.header.src = p.id ∧ m.suffix = [] ∧
      w.secs < 2 ^ 48 ∧ w.nanos < NS ∧ wireToTime w = some b ∧
      (b : Int) + tivToDur m.header.correction ≤ ts ∧ (ts : Int) < (b : Int) + tivToDur m.header.correction + F16 ∧
      0 ≤ m.header.correction ∧ m.header.correction < F16 := by
  obtain ⟨w, b, hw, h1, h2, hb, h3, h4⟩ := C16.wire_roundtrip ts hts
  refine ⟨{ header := { baseHeader s.dflt p.id id p.cfg.minorVersion with correction := timeSubnano ts },
            body := .followUp w, suffix := [] }, w, b, ?_, rfl, rfl, rfl, rfl, h1, h2, hb, h3, h4,
    (timeSubnano_range ts).1, (timeSubnano_range ts).2⟩
  unfold Port.handleSyncTs msgFollowUp
  rw [if_pos hm, hw]
  rfl

theorem followUp_only_master (p : Port) (s : InstState) (id ts : Nat) (hm : p.st ≠ .master) :
    p.handleSyncTs s id ts = .ok (p, []) := by
  unfold Port.handleSyncTs
  rw [if_neg hm]

/-- **Delay_Resp exactness**: a Master port answers a Delay_Req received at `ts` with exactly one Delay_Resp that
echoes the requester's port identity and sequence number, whose receive timestamp plus correction equals `ts`
plus the request's correction, truncated to 2^-16 ns — whenever that sum is representable in the 64-bit correction
field (otherwise it saturates: `delayResp_always_answered`). -/
theorem delayResp_exact (p : Port) (hd : Header) (ts : Nat) (hm : p.st = .master) (hts : ts < C16.TMAX)
    (hc : inI64 (hd.correction + timeSubnano ts) = true) :
    ∃ m w b, p.handleDelayReq hd ts = .ok (p, [.sendGeneral (encode m) false]) ∧
      m.body = .delayResp w hd.src ∧ m.header.seq = hd.seq ∧ m.header.src = p.id ∧ m.header.domain = hd.domain ∧
      m.header.sdoId = hd.sdoId ∧ m.header.logInterval = p.cfg.delayLog ∧ m.suffix = [] ∧
      w.secs < 2 ^ 48 ∧ w.nanos < NS ∧ wireToTime w = some b ∧
      (b : Int) + tivToDur m.header.correction ≤ ts + tivToDur hd.correction ∧
      (ts : Int) + tivToDur hd.correction < (b : Int) + tivToDur m.header.correction + F16 := by
  obtain ⟨w, b, hw, h1, h2, hb, h3, h4⟩ := C16.wire_roundtrip ts hts
  refine ⟨{ header := { hd with flags := { hd.flags with twoStep := false }, src := p.id,
                                correction := hd.correction + timeSubnano ts, logInterval := p.cfg.delayLog },
            body := .delayResp w hd.src, suffix := [] }, w, b, ?_, rfl, rfl, rfl, rfl, rfl, rfl, rfl, h1, h2, hb, ?_, ?_⟩
  · unfold Port.handleDelayReq msgDelayResp
    rw [if_pos hm, hw, clampI64_of_inRange _ hc]
    rfl
  -- the request's correction is added on both sides
  · show (b : Int) + tivToDur (hd.correction + timeSubnano ts) ≤ ts + tivToDur hd.correction
    rw [tivToDur_add, Int.add_left_comm, Int.add_comm (ts : Int)]
    exact Int.add_le_add_left h3 _
  · show (ts : Int) + tivToDur hd.correction < (b : Int) + tivToDur (hd.correction + timeSubnano ts) + F16
    rw [tivToDur_add, Int.add_left_comm, Int.add_comm (ts : Int), Int.add_assoc]
    exact Int.add_lt_add_left h4 _

/-- no correction field, however extreme, makes the answer fail: the correction saturates at the ends of its range -/
theorem delayResp_always_answered (p : Port) (hd : Header) (ts : Nat) (hm : p.st = .master) (hts : ts < C16.TMAX) :
    ∃ m, p.handleDelayReq hd ts = .ok (p, [.sendGeneral (encode m) false]) ∧
      m.header.correction = clampI64 (hd.correction + timeSubnano ts) ∧ inI64 m.header.correction = true := by
  obtain ⟨w, b, hw, _⟩ := C16.wire_roundtrip ts hts
  refine ⟨{ header := { hd with flags := { hd.flags with twoStep := false }, src := p.id,
                                correction := clampI64 (hd.correction + timeSubnano ts), logInterval := p.cfg.delayLog },
            body := .delayResp w hd.src, suffix := [] }, ?_, rfl, ?_⟩
  · unfold Port.handleDelayReq msgDelayResp
    rw [if_pos hm, hw]
    rfl
  · exact (inI64_iff _).2 (clampI64_range _)

theorem delayResp_only_master (p : Port) (hd : Header) (ts : Nat) (hm : p.st ≠ .master) :
    p.handleDelayReq hd ts = .ok (p, []) := by
  unfold Port.handleDelayReq
  rw [if_neg hm]

theorem wire_floor_ns (ts : Nat) (hts : ts < C16.TMAX) :
    ∃ w b, timeToWire ts = some w ∧ w.secs < 2 ^ 48 ∧ w.nanos < NS ∧ wireToTime w = some b ∧ b ≤ ts ∧ ts < b + F32 := by
  obtain ⟨w, hw, h1, h2, hb⟩ := C16.wire_truncates ts hts
  exact ⟨w, _, hw, h1, h2, hb, Nat.div_mul_le_self _ _, Nat.lt_div_mul_add (by decide)⟩

/-- **Pdelay_Resp exactness**: every Pdelay_Req received at `ts` is answered (in every port state) with exactly one
Pdelay_Resp echoing requester, sequence number and correction and carrying `ts` to the nanosecond; the transmit
timestamp context names the request. -/
theorem pdelayResp_exact (p : Port) (s : InstState) (hd : Header) (ts : Nat) (hts : ts < C16.TMAX) :
    ∃ m w b, p.handlePdelayReq s hd ts = .ok (p, [.sendEvent (.pdelayResp hd.seq hd.src) (encode m) true]) ∧
      m.body = .pdelayResp w hd.src ∧ m.header.seq = hd.seq ∧ m.header.src = p.id ∧ m.header.correction = hd.correction ∧
      m.suffix = [] ∧ w.secs < 2 ^ 48 ∧ w.nanos < NS ∧ wireToTime w = some b ∧ b ≤ ts ∧ ts < b + F32 := by
  obtain ⟨w, b, hw, h1, h2, hb, h3, h4⟩ := wire_floor_ns ts hts
  refine ⟨{ header := { baseHeader s.dflt p.id hd.seq p.cfg.minorVersion with
                         flags := { twoStep := true : Flags }, correction := hd.correction },
            body := .pdelayResp w hd.src, suffix := [] }, w, b, ?_, rfl, rfl, rfl, rfl, rfl, h1, h2, hb, h3, h4⟩
  unfold Port.handlePdelayReq msgPdelayResp
  rw [hw]
  rfl

/-- **Pdelay_Resp_Follow_Up exactness**: the transmit timestamp `ts` of the response to request `id` of `req` yields
exactly one follow-up echoing requester and sequence number and carrying `ts` to the nanosecond. -/
theorem pdelayRespFu_exact (p : Port) (s : InstState) (id : Nat) (req : PortId) (ts : Nat) (hts : ts < C16.TMAX) :
    ∃ m w b, p.handlePdelayRespTs s id req ts = .ok (p, [.sendGeneral (encode m) true]) ∧
      m.body = .pdelayRespFu w req ∧ m.header.seq = id ∧ m.header.src = p.id ∧ m.suffix = [] ∧
      w.secs < 2 ^ 48 ∧ w.nanos < NS ∧ wireToTime w = some b ∧ b ≤ ts ∧ ts < b + F32 := by
  obtain ⟨w, b, hw, h1, h2, hb, h3, h4⟩ := wire_floor_ns ts hts
  refine ⟨{ header := baseHeader s.dflt p.id id p.cfg.minorVersion, body := .pdelayRespFu w req, suffix := [] },
    w, b, ?_, rfl, rfl, rfl, rfl, h1, h2, hb, h3, h4⟩
  unfold Port.handlePdelayRespTs msgPdelayRespFu
  rw [hw]
  rfl

/-! ### what the constructors build decodes again and is 34 + 10 or 34 + 20 octets long (Announce: C15) -/

theorem baseHeader_WF (d : DefaultDS) (pid : PortId) (seq minor : Nat) (hd : DfltRanges d) (hp : pid.WF)
    (hs : seq < 65536) (hm : minor < 16) : (baseHeader d pid seq minor).WF :=
  Header.WF_v2 {} hd.1 hm hd.2 hp hs

theorem wf_of_parts (m : Msg) (h1 : m.header.WF) (h2 : m.body.WF) (h3 : m.suffix = []) : m.WF := by
  refine ⟨h1, h2, ?_, ?_⟩
  · rw [h3]; rfl
  · unfold Msg.wireSize
    rw [h3, List.length_nil]
    exact Nat.lt_of_le_of_lt (Nat.add_le_add_left m.body.type.bodySize_le 34) (by decide)

theorem timeToWire_WF {t : Nat} {w : WireTs} (ht : t < C16.TMAX) (h : timeToWire t = some w) : w.WF := by
  obtain ⟨w', hw', h1, h2, _⟩ := C16.wire_truncates t ht
  rw [h] at hw'; cases hw'
  exact ⟨h1, Nat.lt_trans h2 (by decide)⟩

theorem decode_encode_plain (m : Msg) (h1 : m.header.WF) (h2 : m.body.WF) (h3 : m.suffix = []) :
    decode (encode m) = .ok m ∧ (encode m).length = 34 + m.body.type.bodySize := by
  refine ⟨decode_encode m (wf_of_parts m h1 h2 h3), ?_⟩
  rw [encode_length, Msg.wireSize, h3]; rfl

theorem sync_decodes (p : Port) (s : InstState) (hp : PortRanges p) (hd : DfltRanges s.dflt) (hs : SeqsWF p) :
    decode (encode (msgSync s.dflt p.id p.syncSeq p.cfg.minorVersion)) = .ok (msgSync s.dflt p.id p.syncSeq p.cfg.minorVersion) ∧
    (encode (msgSync s.dflt p.id p.syncSeq p.cfg.minorVersion)).length = 44 :=
  decode_encode_plain _ (baseHeader_WF s.dflt p.id p.syncSeq p.cfg.minorVersion hd hp.idWF hs.sync hp.minorLt) zeroTs_WF
    rfl

theorem followUp_decodes (p : Port) (s : InstState) (id ts : Nat) (m : Msg) (hp : PortRanges p) (hd : DfltRanges s.dflt)
    (hid : id < 65536) (hts : ts < C16.TMAX) (h : msgFollowUp s.dflt p.id id ts p.cfg.minorVersion = .ok m) :
    decode (encode m) = .ok m ∧ (encode m).length = 44 := by
  obtain ⟨w, hw, rfl⟩ := msgFollowUp_ok _ _ _ _ _ _ h
  have hc := timeSubnano_range ts
  have hb := baseHeader_WF s.dflt p.id id p.cfg.minorVersion hd hp.idWF hid hp.minorLt
  exact decode_encode_plain _
    (hb.update _ ⟨Int.le_trans (by decide) hc.1, Int.lt_trans hc.2 (by decide)⟩ hb.srcWF hb.logRange)
    (timeToWire_WF hts hw) rfl

theorem delayResp_decodes (p : Port) (hd : Header) (ts : Nat) (m : Msg) (hp : PortRanges p) (hh : hd.WF)
    (hts : ts < C16.TMAX) (h : msgDelayResp hd p.id p.cfg.delayLog ts = .ok m) :
    decode (encode m) = .ok m ∧ (encode m).length = 54 := by
  obtain ⟨w, hw, rfl⟩ := msgDelayResp_ok _ _ _ _ _ h
  exact decode_encode_plain _ (hh.update _ (clampI64_range _) hp.idWF hp.delayLog) ⟨timeToWire_WF hts hw, hh.srcWF⟩ rfl

theorem pdelayResp_decodes (p : Port) (s : InstState) (hd : Header) (ts : Nat) (m : Msg) (hp : PortRanges p)
    (hdf : DfltRanges s.dflt) (hh : hd.WF) (hts : ts < C16.TMAX)
    (h : msgPdelayResp s.dflt p.id hd ts p.cfg.minorVersion = .ok m) :
    decode (encode m) = .ok m ∧ (encode m).length = 54 := by
  obtain ⟨w, hw, rfl⟩ := msgPdelayResp_ok _ _ _ _ _ _ h
  have hb := baseHeader_WF s.dflt p.id hd.seq p.cfg.minorVersion hdf hp.idWF hh.seqLt hp.minorLt
  exact decode_encode_plain _ (hb.update _ hh.corr hb.srcWF hb.logRange) ⟨timeToWire_WF hts hw, hh.srcWF⟩ rfl

theorem pdelayRespFu_decodes (p : Port) (s : InstState) (id : Nat) (req : PortId) (ts : Nat) (m : Msg) (hp : PortRanges p)
    (hdf : DfltRanges s.dflt) (hid : id < 65536) (hreq : req.WF) (hts : ts < C16.TMAX)
    (h : msgPdelayRespFu s.dflt p.id req id ts p.cfg.minorVersion = .ok m) :
    decode (encode m) = .ok m ∧ (encode m).length = 54 := by
  obtain ⟨w, hw, rfl⟩ := msgPdelayRespFu_ok _ _ _ _ _ _ _ h
  exact decode_encode_plain _ (baseHeader_WF s.dflt p.id id p.cfg.minorVersion hdf hp.idWF hid hp.minorLt)
    ⟨timeToWire_WF hts hw, hreq⟩ rfl

theorem requests_decode (p : Port) (s : InstState) (hp : PortRanges p) (hd : DfltRanges s.dflt) (hs : SeqsWF p) :
    decode (encode (msgDelayReq s.dflt p.id p.delaySeq p.cfg.minorVersion)) = .ok (msgDelayReq s.dflt p.id p.delaySeq p.cfg.minorVersion) ∧
    decode (encode (msgPdelayReq s.dflt p.id p.pdelaySeq p.cfg.minorVersion)) = .ok (msgPdelayReq s.dflt p.id p.pdelaySeq p.cfg.minorVersion) := by
  have hb1 := baseHeader_WF s.dflt p.id p.delaySeq p.cfg.minorVersion hd hp.idWF hs.delay hp.minorLt
  have hb2 := baseHeader_WF s.dflt p.id p.pdelaySeq p.cfg.minorVersion hd hp.idWF hs.pdelay hp.minorLt
  exact ⟨(decode_encode_plain (msgDelayReq s.dflt p.id p.delaySeq p.cfg.minorVersion)
      (hb1.update _ hb1.corr hb1.srcWF ⟨by decide, by decide⟩) zeroTs_WF rfl).1,
    (decode_encode_plain (msgPdelayReq s.dflt p.id p.pdelaySeq p.cfg.minorVersion) hb2 zeroTs_WF rfl).1⟩

/-- **Every frame any port-level host call emits** is the encoding of a message bearing the port's identity and the
instance's domain and sdoId, numbered from the port's counter for its type; a call emits at most one frame, and a
counter advances (by one, modulo 2^16) exactly when a frame of its type is emitted. -/
theorem portHandler_frames (i : Inst) (op : Op) (k : Nat) (f : Port → R (Port × InstState × List Out × Nat))
    (hop : i.portHandler op = some (k, f)) (p p' : Port) (s' : InstState) (o : List Out) (q : Nat)
    (h : f p = .ok (p', s', o, q)) : Frames p i.st p' o :=
  (portHandler_call hop h).step.frames

/-- **No set of actions contains more than one event-message send** (indeed: more than one frame). -/
theorem at_most_one_event_send (p p' : Port) (s : InstState) (outs : List Out) (h : Frames p s p' outs) :
    (outs.filter Out.isEvent).length ≤ 1 ∧ (sentFrames outs).length ≤ 1 := by
  have h2 : (sentFrames outs).length ≤ 1 := by
    rcases h.count with ⟨e, _⟩ | ⟨b, e, _⟩ <;> rw [e]
    · exact Nat.zero_le 1
    · exact Nat.le_refl 1
  refine ⟨Nat.le_trans ?_ h2, h2⟩
  -- an event send is a frame
  rw [← List.countP_eq_length_filter, sentFrames, List.length_filterMap_eq_countP]
  refine List.countP_mono_left fun o _ ho => ?_
  cases o with
  | sendEvent => rfl
  | _ => cases ho

theorem seqOf_congr (p p' : Port) (h : p'.seqs = p.seqs) (ty : MsgType) : p'.seqOf ty = p.seqOf ty := by
  cases ty with
  | announce => exact congrArg (fun x => some x.1) h
  | sync => exact congrArg (fun x => some x.2.1) h
  | delayReq => exact congrArg (fun x => some x.2.2.1) h
  | pdelayReq => exact congrArg (fun x => some x.2.2.2) h
  | _ => rfl

theorem seqOf_bump (p p' : Port) (t : Option MsgType) (h : p'.seqs = p.bump t) (ty : MsgType) :
    p'.seqOf ty = if t = some ty then (p.seqOf ty).map nextSeq else p.seqOf ty := by
  -- `p` with the counters `p.bump t` stands for `p'`; on constructors both sides compute
  rw [seqOf_congr { p with annSeq := (p.bump t).1, syncSeq := (p.bump t).2.1, delaySeq := (p.bump t).2.2.1,
                           pdelaySeq := (p.bump t).2.2.2 } p' h ty]
  cases ty with
  | announce | sync | delayReq | pdelayReq =>
    cases t with
    | none => rfl
    | some t => cases t <;> rfl
  | _ => exact (ite_self _).symm

theorem frames_seq (p p' : Port) (s : InstState) (outs : List Out) (hf : Frames p s p' outs) (ty : MsgType) (c : Nat)
    (hc : p.seqOf ty = some c) :
    ((sentFrames outs).filter (fun b => frameType b = some ty) = [] ∧ p'.seqOf ty = some c) ∨
    ∃ m, (sentFrames outs).filter (fun b => frameType b = some ty) = [encode m] ∧ m.header.seq = c ∧ m.body.type = ty ∧
      m.header.src = p.id ∧ p'.seqOf ty = some (nextSeq c) := by
  obtain ⟨hok, hcnt, _, _⟩ := hf
  rcases hcnt with ⟨e, hs⟩ | ⟨b, e, hs⟩
  · left
    rw [e]
    exact ⟨rfl, (seqOf_congr p p' hs ty).trans hc⟩
  · have hmem : b ∈ sentFrames outs := by rw [e]; exact List.mem_singleton.2 rfl
    obtain ⟨o, ho, hob⟩ := List.mem_filterMap.1 hmem
    obtain ⟨m, hbm, hsrc, _, _, hseq⟩ := hok o ho b hob
    have hft : frameType b = some m.body.type := hbm ▸ frameType_encode m
    have hs' := seqOf_bump p p' _ hs ty
    by_cases hb : frameType b = some ty
    · right
      have hty : m.body.type = ty := Option.some.inj (hft.symm.trans hb)
      rw [if_pos hb, hc] at hs'
      refine ⟨m, ?_, hseq c (by rw [hty]; exact hc), hty, hsrc, hs'⟩
      rw [e, ← hbm]
      exact List.filter_cons_of_pos (decide_eq_true hb)
    · left
      rw [if_neg hb, hc] at hs'
      refine ⟨?_, hs'⟩
      rw [e]
      exact List.filter_cons_of_neg fun h => hb (of_decide_eq_true h)

/-- frames of type `ty` emitted by port `k` in an observation list -/
def framesOf (k : Nat) (ty : MsgType) (obs : Obs) : List (List UInt8) :=
  (obs.filterMap (fun x => if x.1 = k then x.2.frame else none)).filter (fun b => frameType b = some ty)

theorem framesOf_append (k : Nat) (ty : MsgType) (a b : Obs) : framesOf k ty (a ++ b) = framesOf k ty a ++ framesOf k ty b := by
  unfold framesOf; rw [List.filterMap_append, List.filter_append]

theorem framesOf_tag_same (k : Nat) (ty : MsgType) (o : List Out) :
    framesOf k ty (tag k o) = (sentFrames o).filter (fun b => frameType b = some ty) := by
  have : ((fun x : Nat × Out => if x.1 = k then x.2.frame else none) ∘ fun x => (k, x)) = Out.frame :=
    funext fun x => if_pos rfl
  unfold framesOf tag sentFrames
  rw [List.filterMap_map, this]

theorem framesOf_nil {k : Nat} {ty : MsgType} {obs : Obs} (h : ∀ x ∈ obs, x.1 = k → x.2.frame = none) :
    framesOf k ty obs = [] := by
  unfold framesOf
  rw [List.filterMap_eq_nil_iff.2 fun x hx => ite_eq_right_iff.2 (h x hx)]
  rfl

/-- **One host call, one port, one message type.** -/
theorem step_seq (i i' : Inst) (op : Op) (obs : Obs) (q : Nat) (k : Nat) (p : Port) (ty : MsgType) (c : Nat)
    (hk : portAt i.ports k = some p) (hc : p.seqOf ty = some c) (h : i.step op = .ok (i', obs, q)) :
    ∃ p', portAt i'.ports k = some p' ∧ p'.id = p.id ∧
      ((framesOf k ty obs = [] ∧ p'.seqOf ty = some c) ∨
       ∃ m, framesOf k ty obs = [encode m] ∧ m.header.seq = c ∧ m.body.type = ty ∧ m.header.src = p.id ∧
         p'.seqOf ty = some (nextSeq c)) := by
  cases k with
  | zero => cases hk
  | succ j =>
    rw [portAt_succ] at hk ⊢
    have hlt := Nat.lt_of_lt_of_le (List.getElem?_eq_some_iff.1 hk).1 (step_ports_length h)
    refine ⟨i'.ports[j], List.getElem?_eq_getElem hlt, ?_⟩
    cases step_at h (List.getElem?_eq_getElem hlt) with
    | same hp _ hobs =>
      rw [← Option.some.inj (hk.symm.trans hp)]
      exact ⟨rfl, .inl ⟨framesOf_nil fun x hx e => Out.frame_of_plain (hobs x.2 (e ▸ hx)), hc⟩⟩
    | call hp hcall _ hobs =>
      cases hk.symm.trans hp
      rw [hobs, framesOf_tag_same]
      exact ⟨hcall.step.frames.id, frames_seq p _ i.st _ hcall.step.frames ty c hc⟩
    | bmca _ hx =>
      obtain ⟨_, _, _, run⟩ := bmca_ran hx
      have hf := run.fixed hk (List.getElem?_eq_getElem hlt)
      exact ⟨hf.id, .inl ⟨framesOf_nil fun x hx _ => Out.frame_of_plain (run.plain x hx),
        (seqOf_congr p _ hf.seqs ty).trans hc⟩⟩
    | new _ _ hj => exact absurd (List.getElem?_eq_some_iff.1 hk).1 (hj ▸ Nat.lt_irrefl _)

/-- the counter value after `j` further frames -/
def seqAfter : Nat → Nat → Nat
  | c, 0 => c
  | c, j + 1 => seqAfter (nextSeq c) j

theorem seqAfter_eq (c j : Nat) (hc : c < 65536) : seqAfter c j = (c + j) % 65536 := by
  induction j generalizing c with
  | zero => exact (Nat.mod_eq_of_lt hc).symm
  | succ j ih =>
    show seqAfter (nextSeq c) j = _
    rw [ih (nextSeq c) (nextSeq_lt c), nextSeq, Nat.mod_add_mod, Nat.add_assoc, Nat.add_comm 1 j]

def runObs (i : Inst) : List Op → Option (Inst × Obs)
  | [] => some (i, [])
  | op :: ops =>
    match i.step op with
    | .error _ => none
    | .ok (i', o, _) => (runObs i' ops).map (fun r => (r.1, o ++ r.2))

/-- the numbering along a history, whatever ports its BMCA runs are passed -/
theorem run_seq (ty : MsgType) (k : Nat) : ∀ (ops : List Op) (i i' : Inst) (obs : Obs) (p : Port) (c : Nat),
    portAt i.ports k = some p → p.seqOf ty = some c → runObs i ops = some (i', obs) →
    ∃ (ms : List Msg) (p' : Port), framesOf k ty obs = ms.map encode ∧
      (∀ (j : Nat) (hj : j < ms.length), ms[j].header.seq = seqAfter c j ∧ ms[j].body.type = ty ∧ ms[j].header.src = p.id) ∧
      portAt i'.ports k = some p' ∧ p'.id = p.id ∧ p'.seqOf ty = some (seqAfter c ms.length) := by
  intro ops
  induction ops with
  | nil =>
    intro i i' obs p c hk hc hr
    cases hr
    exact ⟨[], p, rfl, fun j hj => absurd hj (Nat.not_lt_zero j), hk, rfl, hc⟩
  | cons op ops ih =>
    intro i i' obs p c hk hc hr
    unfold runObs at hr
    split at hr
    · cases hr
    · next i1 o1 q1 hs =>
      obtain ⟨⟨i2, o2⟩, hr2, he⟩ := Option.map_eq_some_iff.1 hr
      cases he
      obtain ⟨p1, hp1, hid1, hcase⟩ := step_seq i i1 op o1 q1 k p ty c hk hc hs
      rw [framesOf_append]
      rcases hcase with ⟨hnone, hc1⟩ | ⟨m, hone, hseq, hty, hsrc, hc1⟩
      · obtain ⟨ms, p', e1, e2, e3, e4, e5⟩ := ih i1 i2 o2 p1 c hp1 hc1 hr2
        rw [hid1] at e2 e4
        exact ⟨ms, p', by rw [hnone, e1]; rfl, e2, e3, e4, e5⟩
      · obtain ⟨ms, p', e1, e2, e3, e4, e5⟩ := ih i1 i2 o2 p1 (nextSeq c) hp1 hc1 hr2
        rw [hid1] at e2 e4
        refine ⟨m :: ms, p', by rw [hone, e1]; rfl, fun j hj => ?_, e3, e4, e5⟩
        cases j with
        | zero => exact ⟨hseq, hty, hsrc⟩
        | succ j => exact e2 j (Nat.lt_of_succ_lt_succ hj)

def NodupHistory (ops : List Op) : Prop := ∀ op ∈ ops, ∀ order, op = .bmca order → order.Nodup

/-- **Sequence numbers of each message type increase by one modulo 2^16** over every host history (so through every
wrap-around), for each of Announce, Sync, Delay_Req and Pdelay_Req and each port: the frames of that type the port
emits are numbered c, c+1, c+2, … from the counter's value c at the start, and nothing else moves the counter (state
changes, BMCA runs, other ports' traffic). -/
theorem seq_numbers_consecutive (ty : MsgType) (k : Nat) : ∀ (ops : List Op) (i i' : Inst) (obs : Obs) (p : Port) (c : Nat),
    NodupHistory ops → portAt i.ports k = some p → p.seqOf ty = some c → runObs i ops = some (i', obs) →
    ∃ (ms : List Msg) (p' : Port), framesOf k ty obs = ms.map encode ∧
      (∀ (j : Nat) (hj : j < ms.length), ms[j].header.seq = seqAfter c j ∧ ms[j].body.type = ty ∧ ms[j].header.src = p.id) ∧
      portAt i'.ports k = some p' ∧ p'.id = p.id ∧ p'.seqOf ty = some (seqAfter c ms.length) :=
  fun ops i i' obs p c _ => run_seq ty k ops i i' obs p c

/-! ### the message constructors as translated from the source on this run
(`translator/extract_msgs.py` → `Generated/MsgCtors.lean`, interpreter `Lemmas/MsgGen.lean`): interpreted, each is the
model's constructor for all arguments (`Env`). A constructor the translator no longer recognises is `none`: `cases h`
then leaves no goal, hence `all_goals` (Props/C05.lean says more). -/
section Translated
open Statime.MsgGen

theorem generated_sync_is_model (e : Env) :
    ∀ c, Generated.syncCtor = some c → c.eval e = some (.ok (msgSync e.d e.pid e.seq e.minor)) := by
  intro c h
  unfold Generated.syncCtor at h
  cases h
  all_goals rfl

theorem generated_delay_req_is_model (e : Env) :
    ∀ c, Generated.delayReqCtor = some c → c.eval e = some (.ok (msgDelayReq e.d e.pid e.seq e.minor)) := by
  intro c h
  unfold Generated.delayReqCtor at h
  cases h
  all_goals rfl

theorem generated_pdelay_req_is_model (e : Env) :
    ∀ c, Generated.pdelayReqCtor = some c → c.eval e = some (.ok (msgPdelayReq e.d e.pid e.seq e.minor)) := by
  intro c h
  unfold Generated.pdelayReqCtor at h
  cases h
  all_goals rfl

/-- the constructors that convert a timestamp: the interpreter maps twice over the conversion, the model binds it -/
theorem eval_timestamped (x : R WireTs) (h : Header) (f : WireTs → Body) :
    (x.map f).map (fun b => ({ header := h, body := b, suffix := [] } : Msg)) =
    (do let w ← x; .ok { header := h, body := f w, suffix := [] }) := by
  cases x <;> rfl

theorem generated_follow_up_is_model (e : Env) :
    ∀ c, Generated.followUpCtor = some c → c.eval e = some (msgFollowUp e.d e.pid e.seq e.ts e.minor) := by
  intro c h
  unfold Generated.followUpCtor at h
  cases h
  all_goals exact congrArg some (eval_timestamped ..)

theorem generated_delay_resp_is_model (e : Env) :
    ∀ c, Generated.delayRespCtor = some c → c.eval e = some (msgDelayResp e.req e.pid e.ilog e.ts) := by
  intro c h
  unfold Generated.delayRespCtor at h
  cases h
  all_goals exact congrArg some (eval_timestamped ..)

theorem generated_pdelay_resp_is_model (e : Env) :
    ∀ c, Generated.pdelayRespCtor = some c → c.eval e = some (msgPdelayResp e.d e.pid e.req e.ts e.minor) := by
  intro c h
  unfold Generated.pdelayRespCtor at h
  cases h
  all_goals exact congrArg some (eval_timestamped ..)

theorem generated_pdelay_resp_follow_up_is_model (e : Env) :
    ∀ c, Generated.pdelayRespFuCtor = some c →
      c.eval e = some (msgPdelayRespFu e.d e.pid e.requestor e.seq e.ts e.minor) := by
  intro c h
  unfold Generated.pdelayRespFuCtor at h
  cases h
  all_goals exact congrArg some (eval_timestamped ..)

end Translated

end Statime.C10
