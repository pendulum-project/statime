import StatimeModel.Lemmas.Frames
import StatimeModel.Lemmas.Receive
import StatimeModel.Lemmas.Decision
import StatimeModel.Lemmas.Step
import StatimeModel.Generated.AnnounceCtor
/-
C11 — Announces advertise the instance's current view of the hierarchy.

`View` is what is compared: the hierarchy fields of the data sets (`viewOf`) and of an Announce (`viewOfAnnounce`).
An emitted Announce carries the view of the data sets; decisions M1 / M2, decision S1 and the parent's Announces
write it (`ownView`, `parentView`); no other call touches it. Last, the Announce constructor as translated from the
source on this run.
-/
namespace Statime.C11
open Statime

/-- the hierarchy fields of an Announce message -/
structure View where
  gm : Nat
  quality : ClockQuality
  p1 : Nat
  p2 : Nat
  steps : Nat
  tp : TimeProps
  deriving DecidableEq, Repr

/-- what the instance's data sets (parentDS, currentDS, timePropertiesDS) currently hold -/
def viewOf (s : InstState) : View :=
  { gm := s.parent.gmIdentity, quality := s.parent.gmQuality, p1 := s.parent.gmP1, p2 := s.parent.gmP2,
    steps := s.stepsRemoved, tp := s.tp }

/-- what an Announce says (flags decoded the way `AnnounceMessage::time_properties` does) -/
def viewOfAnnounce (h : Header) (ab : AnnounceBody) : View :=
  { gm := ab.gm, quality := ⟨ab.clockClass, ab.accuracy, ab.variance⟩, p1 := ab.p1, p2 := ab.p2, steps := ab.steps,
    tp := annTimeProps ⟨h, ab⟩ }

/-- time properties → flags and body of the Announce → time properties is the identity: nothing is lost between the
data set and the frame -/
theorem time_properties_roundtrip (s : InstState) (pid : PortId) (seq minor : Nat) (ab : AnnounceBody)
    (h : (msgAnnounce s pid seq minor).body = .announce ab) :
    annTimeProps ⟨(msgAnnounce s pid seq minor).header, ab⟩ = s.tp := by
  cases h
  unfold annTimeProps msgAnnounce
  cases hs : s.tp with
  | mk utc leap tt ft pts ts =>
    -- two fields are not copied: `utcOffset` travels as valid flag plus value-or-0, `leap` as two flags
    cases utc <;> cases leap <;> rfl

theorem msgAnnounce_view (s : InstState) (pid : PortId) (seq minor : Nat) :
    ∃ ab, (msgAnnounce s pid seq minor).body = .announce ab ∧
      viewOfAnnounce (msgAnnounce s pid seq minor).header ab = viewOf s := by
  refine ⟨_, rfl, ?_⟩
  unfold viewOfAnnounce
  rw [time_properties_roundtrip s pid seq minor _ rfl]
  rfl

/-- **Every Announce a Master port emits carries what the data sets hold right now**: grandmaster identity, quality,
priorities, stepsRemoved, UTC offset, time source and the leap / traceability flags. -/
theorem announce_carries_datasets (p p' : Port) (s : InstState) (q q' : List FwdTlv) (loose : Bool) (outs : List Out)
    (hm : p.st = .master) (h : p.sendAnnounce s q loose = .ok (p', outs, q')) :
    ∃ (m : Msg) (ab : AnnounceBody), outs = [.reset .announce (.exact (intervalNs p.cfg.announceLog)), .sendGeneral (encode m) false] ∧
      m.body = .announce ab ∧ viewOfAnnounce m.header ab = viewOf s ∧ m.header.src = p.id ∧ m.header.seq = p.annSeq := by
  rw [sendAnnounce_master s q loose hm] at h; cases h
  obtain ⟨ab, hab, hv⟩ := msgAnnounce_view s p.id p.annSeq p.cfg.minorVersion
  exact ⟨p.announceMsg s (p.announceFwd s q loose).1, ab, rfl, hab, hv, rfl, rfl⟩

/-- the instance's own attributes, as BMCA decision M1 / M2 writes them -/
def ownView (d : DefaultDS) : View :=
  { gm := d.clockIdentity, quality := d.quality, p1 := d.p1, p2 := d.p2, steps := 0, tp := defaultTimeProps }

/-- **Grandmaster**: decisions M1 and M2 write the instance's own attributes with stepsRemoved 0 into the data sets.
(The time properties written are the fixed defaults of `set_recommended_state`, not the ones the instance was
constructed with — known finding `gm-time-properties-reset`.) -/
theorem decision_m_datasets (p p' : Port) (s s' : InstState) (d : DefaultDS) (r : Recommended) (e : List Out) (pd : Option (List Out))
    (hr : r = .m1 d ∨ r = .m2 d) (h : p.setRecommendedState r s = .ok (p', s', e, pd)) :
    viewOf s' = ownView d ∧ s'.parent.parentPort = ⟨d.clockIdentity, 0⟩ ∧ s'.dflt = s.dflt ∧ s'.pathTrace = [] := by
  obtain ⟨_, hw⟩ := setRecommendedState_writes h
  rcases hr with rfl | rfl
  · cases hw
    exact ⟨rfl, rfl, rfl, rfl⟩
  · cases hw
    exact ⟨rfl, rfl, rfl, rfl⟩

/-- the attributes BMCA writes on M1 / M2 are the *current* default data set (so a run-time quality change is
advertised after the next BMCA run) -/
theorem recommend_m_is_own (own : DefaultDS) (e er : Option Best) (l : Bool) (d : DefaultDS)
    (h : recommend own e er l = some (.m1 d) ∨ recommend own e er l = some (.m2 d)) : d = own := by
  rcases h with h | h
  · cases recommend_cases h with
    | m1 => rfl
  · cases recommend_cases h with
    | m2 => rfl

/-- **A change of the local clock quality is advertised after the next BMCA run**: the decision computed for a port
after `setQuality q`, when it is M1 or M2, writes quality `q`. -/
theorem quality_change_after_bmca (i : Inst) (q : ClockQuality) (p p' : Port) (s' : InstState) (e er : Option Best)
    (r : Recommended) (ev : List Out) (pd : Option (List Out))
    (hrec : recommend (i.setQuality q).st.dflt e er (decide (p.st = .listening)) = some r)
    (hm : (∃ d, r = .m1 d) ∨ ∃ d, r = .m2 d)
    (h : p.setRecommendedState r (i.setQuality q).st = .ok (p', s', ev, pd)) :
    (viewOf s').quality = q ∧ (viewOf s').steps = 0 ∧ (viewOf s').gm = i.st.dflt.clockIdentity := by
  obtain ⟨d, hr⟩ : ∃ d, r = .m1 d ∨ r = .m2 d :=
    hm.elim (fun ⟨d, hd⟩ => ⟨d, .inl hd⟩) (fun ⟨d, hd⟩ => ⟨d, .inr hd⟩)
  have hd := recommend_m_is_own _ e er _ d (hr.imp (· ▸ hrec) (· ▸ hrec))
  obtain ⟨hv, _⟩ := decision_m_datasets p p' _ s' d r ev pd hr h
  rw [hv, hd]
  exact ⟨rfl, rfl, rfl⟩

/-- table 33: the view an accepted Announce `a` of the parent leaves in the data sets -/
def parentView (a : Ann) : View :=
  { gm := a.body.gm, quality := ⟨a.body.clockClass, a.body.accuracy, a.body.variance⟩, p1 := a.body.p1, p2 := a.body.p2,
    steps := if a.body.steps + 1 ≥ 65536 then 65535 else a.body.steps + 1, tp := annTimeProps a }

theorem applyParentS1_view (s s1 : InstState) (a : Ann) (h : s.applyParentS1 a = .ok s1) :
    viewOf s1 = parentView a ∧ s1.parent.parentPort = a.hdr.src ∧ s1.dflt = s.dflt := by
  obtain ⟨hlt, rfl⟩ := applyParentS1_ok h
  refine ⟨?_, rfl, rfl⟩
  unfold viewOf parentView InstState.withParent
  simp only [if_neg (Nat.not_le_of_lt hlt)]

/-- **Slave, decision S1**: the data sets take the attributes announced by the new parent, stepsRemoved + 1 -/
theorem decision_s1_datasets (p p' : Port) (s s' : InstState) (a : Ann) (e : List Out) (pd : Option (List Out))
    (h : p.setRecommendedState (.s1 a) s = .ok (p', s', e, pd)) :
    viewOf s' = parentView a ∧ s'.parent.parentPort = a.hdr.src := by
  obtain ⟨_, hw⟩ := setRecommendedState_writes h
  cases hw with
  | s1 ha => exact ⟨(applyParentS1_view s s' a ha).1, (applyParentS1_view s s' a ha).2.1⟩

/-- **Slave, every later Announce of the parent**: received on the Slave port it updates the data sets to its
contents with stepsRemoved + 1 — unless its path trace shows a loop: then (C15) it changes nothing -/
theorem parent_announce_datasets (p : Port) (s s1 : InstState) (m : Msg) (a : Ann) (loop : Bool)
    (hs : p.st.isSlave = true) (hp : a.hdr.src = s.parent.parentPort)
    (h : p.announceUpdate s m a = .ok (s1, loop)) :
    (loop = false ∧ viewOf s1 = parentView a ∧ s1.parent.parentPort = a.hdr.src) ∨ (loop = true ∧ s1 = s) := by
  cases announceUpdate_cases h with
  | other hn => exact absurd ⟨hs, hp⟩ hn
  | looping => exact .inr ⟨rfl, rfl⟩
  | applied =>
    -- the stored path is not part of the view
    cases pathTlvOf s m <;> exact .inl ⟨rfl, rfl, rfl⟩

/-- an Announce that is not from the parent, or arrives on a port that is not Slave, leaves the data sets alone -/
theorem other_announce_keeps_datasets (p : Port) (s s1 : InstState) (m : Msg) (a : Ann) (loop : Bool)
    (hn : ¬ (p.st.isSlave = true ∧ a.hdr.src = s.parent.parentPort))
    (h : p.announceUpdate s m a = .ok (s1, loop)) : s1 = s ∧ loop = false := by
  cases announceUpdate_cases h with
  | other => exact ⟨rfl, rfl⟩
  | looping h1 h2 | applied h1 h2 => exact absurd ⟨h1, h2⟩ hn

/-- **A change in the parent's Announce contents shows up in the next Announce sent**: once the Slave port `ps` has
handled the parent's Announce `ab`, the Announce any Master port `pm` of the instance sends next carries exactly
those contents, stepsRemoved + 1. -/
theorem parent_change_in_next_announce (ps ps' pm pm' : Port) (s s1 : InstState) (m : Msg) (ab : AnnounceBody)
    (o1 outs : List Out) (q q' : List FwdTlv) (loose : Bool)
    (hs : ps.st.isSlave = true) (hp : m.header.src = s.parent.parentPort)
    (hnl : loopsBack s (pathTlvOf s m) = false)
    (h1 : ps.handleAnnounce s m ab = .ok (ps', s1, o1))
    (hm : pm.st = .master) (h2 : pm.sendAnnounce s1 q loose = .ok (pm', outs, q')) :
    ∃ (m2 : Msg) (ab2 : AnnounceBody), outs = [.reset .announce (.exact (intervalNs pm.cfg.announceLog)), .sendGeneral (encode m2) false] ∧
      m2.body = .announce ab2 ∧ viewOfAnnounce m2.header ab2 = parentView ⟨m.header, ab⟩ := by
  obtain ⟨m2, ab2, ho, hb, hv, _⟩ := announce_carries_datasets pm pm' s1 q q' loose outs hm h2
  refine ⟨m2, ab2, ho, hb, ?_⟩
  rw [hv]
  obtain ⟨loop, hu, _⟩ := handleAnnounce_ok h1
  rcases parent_announce_datasets ps s s1 m ⟨m.header, ab⟩ loop hs hp hu with ⟨_, hview, _⟩ | ⟨hl, _⟩
  · exact hview
  · -- `loop = true` only for an Announce that loops back, which `hnl` excludes
    subst hl
    cases announceUpdate_cases hu with
    | looping _ _ hlb => exact nomatch hnl.symm.trans hlb

/-- port-level host calls other than frames leave the data sets alone (timers, transmit timestamps) -/
theorem timers_keep_datasets (i : Inst) (op : Op) (k : Nat) (f : Port → R (Port × InstState × List Out × Nat))
    (hop : i.portHandler op = some (k, f)) (hne : (∀ kk d, op ≠ .gen kk d) ∧ ∀ kk d t, op ≠ .evt kk d t)
    (p p' : Port) (s' : InstState) (o : List Out) (q : Nat) (h : f p = .ok (p', s', o, q)) : s' = i.st := by
  cases portHandler_call hop h with
  | gen => exact absurd rfl (hne.1 _ _)
  | evt => exact absurd rfl (hne.2 _ _ _)
  | _ => rfl

/-- a received frame changes the data sets only if it is an Announce from the current parent on a Slave port -/
theorem frames_keep_datasets (p p' : Port) (s s' : InstState) (m : Msg) (outs : List Out)
    (h : p.handleGeneralInternal s m = .ok (p', s', outs)) :
    s' = s ∨ (p.st.isSlave = true ∧ m.header.src = s.parent.parentPort ∧ ∃ ab, m.body = .announce ab) := by
  have hr := handleGeneralInternal_cases p s m none
  generalize p.handleGeneralInternal s m = x at h hr
  cases hr with
  | announce hb =>
    by_cases hc : p.st.isSlave = true ∧ m.header.src = s.parent.parentPort
    · exact .inr ⟨hc.1, hc.2, _, hb⟩
    · obtain ⟨loop, hu, _⟩ := handleAnnounce_ok h
      exact .inl (other_announce_keeps_datasets p s s' m _ loop hc hu).1
  | handler =>
    obtain ⟨⟨q, o⟩, _, he⟩ := map_ok _ _ _ h
    cases he
    exact .inl rfl
  | ignored => cases h; exact .inl rfl

/-! ### the Announce constructor as translated from the source on this run
(`translator/extract_announce.py` → `Generated/AnnounceCtor.lean`, interpreter `Lemmas/AnnounceGen.lean`) -/
section Translated
open Statime.AnnGen

/-- **the Announce constructor translated from `Message::announce` on this run is the model's `msgAnnounce`**:
every header flag and every body field, taken from the data set member the source names, for every instance state,
port identity, sequence number and minor version -/
theorem generated_announce_is_model (s : InstState) (pid : PortId) (seq minor : Nat) :
    ∀ ft bt, Generated.announceFlagTable = some ft → Generated.announceBodyTable = some bt →
      buildAnnounce ft bt s pid seq minor = some (msgAnnounce s pid seq minor) := by
  intro ft bt hf hb
  unfold Generated.announceFlagTable at hf
  unfold Generated.announceBodyTable at hb
  -- a table the translator did not recognise is `none`, and `cases` then leaves no goal: hence `all_goals`
  cases hf <;> cases hb
  all_goals rfl

/-- `base_header` takes sdoId, domain, identity and sequence number from its arguments (when recognised) -/
theorem generated_base_header_as_modelled : Generated.announceBaseHeaderAsModelled ≠ some false := by decide

/-- **`AnnounceMessage::time_properties` as translated on this run is the model's `annTimeProps`**: the `if`-chain of
the leap indicator, the flag guarding the UTC offset and the flag behind each boolean, for every received Announce -/
theorem generated_time_properties_is_model (a : Ann) :
    ∀ t, Generated.timePropertiesTable = some t → buildTp t a = some (annTimeProps a) := by
  intro t h
  unfold Generated.timePropertiesTable at h
  -- no goal is left when the table is `none`
  cases h
  all_goals rfl

end Translated

end Statime.C11
