import StatimeModel.Props.C08
/-
C12 — No stuck states: ports keep progressing when the host obeys timer actions.

The host is modelled here: `Armed` records which timers of a port are running, `TInst.step` applies the timer actions
a host call returns, `Waits` / `AllWait` say that a port has armed what its state waits on (`Port.needs`). Every step
keeps `AllWait` (`step_allwait`) because every call satisfies `Rearm` (Lemmas/Timers.lean; proved of the port handlers
in Lemmas/PortStep.lean, of one BMCA decision in `setRecommendedState_rearm`, of a whole run in `ran_rearm`). The progress
theorems at the end say what the timer of each state then does.
-/
namespace Statime.C12
open Statime

/-- which timers of one port are armed (the filter update timer belongs to the filter) -/
structure Armed where
  ann : Bool := false
  sync : Bool := false
  delay : Bool := false
  rcpt : Bool := false
  deriving DecidableEq, Repr

def Armed.get (a : Armed) : Timer → Bool
  | .announce => a.ann
  | .sync => a.sync
  | .delay => a.delay
  | .receipt => a.rcpt
  | .filter => false

def Armed.set (a : Armed) (k : Timer) (b : Bool) : Armed :=
  match k with
  | .announce => { a with ann := b }
  | .sync => { a with sync := b }
  | .delay => { a with delay := b }
  | .receipt => { a with rcpt := b }
  | .filter => a

/-- a `Reset…Timer` action arms the timer -/
def Armed.arm (a : Armed) : Out → Armed
  | .reset k _ => a.set k true
  | _ => a

def Armed.after (a : Armed) (outs : List Out) : Armed := outs.foldl Armed.arm a

/-- a timer that fires is no longer armed -/
def Armed.fire (a : Armed) : Option Timer → Armed
  | some k => a.set k false
  | none => a

theorem get_set (a : Armed) (k k' : Timer) (b : Bool) (hk : k' ≠ .filter) :
    (a.set k b).get k' = if k' = k then b else a.get k' := by
  cases k' with
  | filter => exact absurd rfl hk
  | _ => cases k <;> rfl

theorem arm_get (a : Armed) (o : Out) (k : Timer) (hk : k ≠ .filter) :
    (a.arm o).get k = true ↔ a.get k = true ∨ ∃ d, o = .reset k d := by
  unfold Armed.arm
  split
  · next k' d' =>
    rw [get_set a k' k true hk]
    by_cases e : k = k'
    · rw [if_pos e, e]
      exact ⟨fun _ => .inr ⟨d', rfl⟩, fun _ => rfl⟩
    · rw [if_neg e]
      exact ⟨.inl, fun h => h.elim id fun ⟨d, hd⟩ => absurd (Out.reset.inj hd).1.symm e⟩
  · next hne => exact ⟨.inl, fun h => h.elim id fun ⟨d, hd⟩ => absurd hd (hne k d)⟩

theorem after_get (outs : List Out) : ∀ (a : Armed) (k : Timer), k ≠ .filter →
    ((a.after outs).get k = true ↔ a.get k = true ∨ ∃ d, Out.reset k d ∈ outs) := by
  induction outs with
  | nil => exact fun a k _ => ⟨.inl, fun h => h.elim id fun ⟨_, hd⟩ => nomatch hd⟩
  | cons o os ih =>
    intro a k hk
    unfold Armed.after at ih ⊢
    rw [List.foldl_cons, ih (a.arm o) k hk, arm_get a o k hk, or_assoc]
    simp only [List.mem_cons, exists_or, eq_comm]

/-- the port has armed everything its state waits on -/
def Waits (p : Port) (a : Armed) : Prop := ∀ k, p.needs k = true → a.get k = true

theorem needs_not_filter (p : Port) (k : Timer) (h : p.needs k = true) : k ≠ .filter := by
  intro e; subst e; cases h

/-- **One handler call keeps the port supplied with timers** (unless it is the recovery from a peer-delay fault) -/
theorem waits_step (p p' : Port) (a : Armed) (outs : List Out) (fired : Option Timer)
    (hw : Waits p a) (hr : Rearm p p' outs fired) (hnr : ¬ (p.st = .faulty ∧ p'.st = .listening)) :
    Waits p' ((a.fire fired).after outs) := by
  intro k hk
  have hkf := needs_not_filter p' k hk
  rw [after_get outs _ k hkf]
  rcases hr k hk with ⟨h1, h2⟩ | h | h
  · left
    cases fired with
    | none => exact hw k h1
    | some f =>
      simp only [Armed.fire]
      rw [get_set a f k false hkf, if_neg (fun e => h2 (by rw [e]))]
      exact hw k h1
  · exact Or.inr h
  · exact absurd h hnr

/-- an instance together with the armed timers of each port (by port number) -/
structure TInst where
  i : Inst
  armed : Nat → Armed

def outsOf (k : Nat) (obs : Obs) : List Out := (obs.filter (fun x => x.1 = k)).map (fun x => x.2)

/-- the timer of port `k` whose firing this host call is -/
def firedOn (op : Op) (k : Nat) : Option Timer :=
  match op with
  | .tmr j t => if j = k then some t else none
  | .tmrAnnounce j _ _ => if j = k then some .announce else none
  | _ => none

/-- the host fires only timers that are armed -/
def Enabled (t : TInst) (op : Op) : Prop :=
  ∀ k tm, firedOn op k = some tm → tm ≠ .filter → (t.armed k).get tm = true

def TInst.step (t : TInst) (op : Op) : R (TInst × Obs) :=
  (t.i.step op).map fun r =>
    ({ i := r.1, armed := fun k => ((t.armed k).fire (firedOn op k)).after (outsOf k r.2.1) }, r.2.1)

def TInst.new (d : DefaultDS) (pt : Bool) (tp : TimeProps) : TInst := { i := Inst.new d pt tp, armed := fun _ => {} }

/-- every port has armed what its state waits on -/
def AllWait (t : TInst) : Prop := ∀ (j : Nat) (p : Port), t.i.ports[j]? = some p → Waits p (t.armed (j + 1))

theorem outsOf_tag (k k0 : Nat) (o : List Out) : outsOf k (tag k0 o) = if k = k0 then o else [] := by
  unfold outsOf
  -- every element of `tag k0 o` has first component `k0`: the filter keeps all of them or none
  split
  · next h =>
    rw [List.filter_eq_self.2 fun x hx => decide_eq_true ((mem_tag.1 hx).1.trans h.symm)]
    unfold tag
    rw [List.map_map]
    exact List.map_id o
  · next h =>
    rw [List.filter_eq_nil_iff.2 fun x hx hk => h ((of_decide_eq_true hk).symm.trans (mem_tag.1 hx).1)]
    rfl

theorem outsOf_append (k : Nat) (a b : Obs) : outsOf k (a ++ b) = outsOf k a ++ outsOf k b := by
  unfold outsOf; rw [List.filter_append, List.map_append]

theorem mem_outsOf (k : Nat) (obs : Obs) (o : Out) : o ∈ outsOf k obs ↔ (k, o) ∈ obs := by
  unfold outsOf
  rw [List.mem_map]
  constructor
  · rintro ⟨⟨k', o'⟩, hx, rfl⟩
    obtain ⟨hm, hk⟩ := List.mem_filter.1 hx
    rw [← of_decide_eq_true hk]
    exact hm
  · exact fun h => ⟨(k, o), List.mem_filter.2 ⟨h, decide_eq_true rfl⟩, rfl⟩

theorem firedOn_eq (op : Op) (k : Nat) : firedOn op k = if op.port? = some k then op.fired else none := by
  cases op with
  | tmr | tmrAnnounce => simp only [firedOn, Op.port?, Op.fired, Option.some.injEq]
  | gen | evt | txts => exact (ite_self _).symm
  | bmca | setSlaveOnly | setQuality | addPort => rfl

/-- every port-level host call re-arms what its port waits on afterwards -/
theorem portHandler_rearm (i : Inst) (op : Op) (k : Nat) (f : Port → R (Port × InstState × List Out × Nat))
    (hop : i.portHandler op = some (k, f)) (p p' : Port) (s' : InstState) (o : List Out) (q : Nat)
    (h : f p = .ok (p', s', o, q)) : Rearm p p' o (firedOn op k) := by
  rw [firedOn_eq, if_pos (portHandler_call hop h).port?]
  exact (portHandler_call hop h).step.rearm

theorem rearm_congr {p0 p1 p2 p3 : Port} {outs : List Out} {f : Option Timer} (h01 : p1.st = p0.st) (h23 : p3.st = p2.st)
    (h : Rearm p1 p2 outs f) : Rearm p0 p3 outs f := by
  intro k hk
  rw [needs_congr p2 p3 h23 k] at hk
  rcases h k hk with ⟨a, b⟩ | a | ⟨a, b⟩
  · exact Or.inl ⟨by rw [← needs_congr p0 p1 h01 k]; exact a, b⟩
  · exact Or.inr (Or.inl a)
  · exact Or.inr (Or.inr ⟨by rw [← h01]; exact a, by rw [h23]; exact b⟩)

/-- the state decision of one port: the new state's timers are in the pending actions -/
theorem portTarget_rearm (p : Port) (r : Recommended) (d : DefaultDS) :
    Rearm p (p.setState (portTarget p r d).1).1 ((portTarget p r d).2.getD []) none := by
  cases r with
  | s1 a =>
    intro k hk
    cases needs_slave rfl hk
    exact .inr (.inl ⟨_, .tail _ (.head _)⟩)
  | p1 | p2 => exact rearm_of_idle _ _ _ _ (.inl rfl)
  | m1 | m2 | m3 =>
    show Rearm p (p.setState (masterTarget d.slaveOnly p.multiportDisable.isSome).1).1
      ((masterTarget d.slaveOnly p.multiportDisable.isSome).2.getD []) none
    cases d.slaveOnly with
    | true => exact fun _ hk => .inr (.inl (listening_covered rfl hk))
    | false =>
      cases p.multiportDisable.isSome with
      | true => exact rearm_of_idle _ _ _ _ (.inl rfl)
      | false => exact fun _ hk => .inr (.inl (master_covered rfl hk))

theorem setRecommendedState_rearm (p p1 : Port) (r : Recommended) (s s1 : InstState) (e : List Out) (pd : Option (List Out))
    (h : p.setRecommendedState r s = .ok (p1, s1, e, pd)) : Rearm p p1 (pd.getD []) none := by
  obtain ⟨ev, _, hv, _⟩ := setRecommendedState_cases h
  cases (setRecommendedPortState_cases hv).2 with
  | stays => exact rearm_refl _ _
  | moves => exact portTarget_rearm p r s.dflt

/-- a BMCA run hands every port pending actions that re-arm what its new state waits on -/
theorem ran_rearm {i i' : Inst} {order : List Nat} {obs : Obs} {ebest : Option Best} {lbs : List (Nat × Option Best)}
    {pend : List (Nat × List Out)} (run : Ran i order i' obs ebest lbs pend) (hnd : order.Nodup) {j : Nat} {p p' : Port}
    (hp : i.ports[j]? = some p) (hp' : i'.ports[j]? = some p') : Rearm p p' (outsOf (j + 1) obs) none := by
  by_cases hjo : j + 1 ∈ order
  · cases (run.port hp hp').2 hnd hjo with
    | quiet _ role _ => exact rearm_congr rfl role.st (rearm_refl p _)
    | call _ _ before applied after _ pending =>
      refine rearm_congr before.st after.st (rearm_mono (setRecommendedState_rearm _ _ _ _ _ _ _ applied) fun o ho => ?_)
      rw [mem_outsOf]
      apply run.handed hp
      rw [pending, Option.or_none]
      exact ho
  · exact rearm_congr rfl ((run.port hp hp').1 hjo).st (rearm_refl p _)

theorem TInst.step_ok {t t' : TInst} {op : Op} {obs : Obs} (h : t.step op = .ok (t', obs)) :
    ∃ q, t.i.step op = .ok (t'.i, obs, q) ∧
      ∀ k, t'.armed k = ((t.armed k).fire (firedOn op k)).after (outsOf k obs) := by
  obtain ⟨⟨i', obs', q⟩, hs, he⟩ := map_ok _ _ _ h
  cases he
  exact ⟨q, hs, fun _ => rfl⟩

/-- one host call, one port afterwards: it stands where a port stood before, and the call re-arms what it waits on;
or it is the new port, Listening, and handed its announce receipt timer -/
theorem step_rearm (i i' : Inst) (op : Op) (obs : Obs) (q : Nat) (hn : i.st.dflt.numberPorts = i.ports.length)
    (hb : ∀ order, op = .bmca order → order.Nodup) (hs : i.step op = .ok (i', obs, q))
    (j : Nat) (p' : Port) (hp' : i'.ports[j]? = some p') :
    (∃ p, i.ports[j]? = some p ∧ Rearm p p' (outsOf (j + 1) obs) (firedOn op (j + 1))) ∨
    (p'.st = .listening ∧ ∃ d, Out.reset .receipt d ∈ outsOf (j + 1) obs) := by
  cases step_at hs hp' with
  | same hp hop =>
    -- a timer of this port that fires here is the filter's, which no state waits on
    refine .inl ⟨p', hp, fun k hk => .inl ⟨hk, fun e => ?_⟩⟩
    rw [firedOn_eq] at e
    by_cases h : op.port? = some (j + 1)
    · rw [if_pos h, hop h] at e
      cases e
      cases hk
    · rw [if_neg h] at e
      cases e
  | call hp hc _ hobs =>
    rw [hobs, outsOf_tag, if_pos rfl, firedOn_eq, if_pos hc.port?]
    exact .inl ⟨_, hp, hc.step.rearm⟩
  | bmca hop hx =>
    subst hop
    obtain ⟨_, _, _, run⟩ := bmca_ran hx
    obtain ⟨p, hp⟩ := run.back hp'
    exact .inl ⟨p, hp, ran_rearm run (hb _ rfl) hp hp'⟩
  | new _ hnew hj hobs =>
    -- the new port is handed its timer under its number, `numberPorts + 1`
    refine .inr ⟨Port.new_st hnew, .rand, ?_⟩
    rw [hobs, hj, ← hn, outsOf_tag, if_pos rfl]
    exact List.mem_singleton.2 rfl

/-- no port goes from Faulty to Listening in this step (the excepted recovery) -/
def NoRecovery (t t' : TInst) : Prop :=
  ∀ (j : Nat) (p p' : Port), t.i.ports[j]? = some p → t'.i.ports[j]? = some p' → ¬ (p.st = .faulty ∧ p'.st = .listening)

/-- **Every host call keeps every port supplied with the timers it waits on** — frames, transmit timestamps, BMCA runs,
setting changes, new ports, and the firing of any armed timer — except the step on which a port recovers from a
peer-delay fault (known finding `recovered-port-receipt-timer-not-armed`). -/
theorem step_allwait (t t' : TInst) (op : Op) (obs : Obs) (hw : AllWait t) (hinv : C08.Inv t.i)
    (hb : ∀ order, op = .bmca order → order.Nodup) (hnr : NoRecovery t t') (h : t.step op = .ok (t', obs)) :
    AllWait t' := by
  obtain ⟨q, hs, hta⟩ := TInst.step_ok h
  intro j p' hp'
  rw [hta]
  rcases step_rearm t.i t'.i op obs q hinv.wf.count hb hs j p' hp' with ⟨p, hp, hr⟩ | ⟨hl, d, hd⟩
  · exact waits_step p p' _ _ _ (hw j p hp) hr (hnr j p p' hp hp')
  · intro k hk
    cases needs_listening hl hk
    rw [after_get _ _ .receipt (fun e => nomatch e)]
    exact Or.inr ⟨d, hd⟩

/-- a host history: BMCA runs are passed every port once; no step is a recovery from a peer-delay fault -/
def GoodT : TInst → List Op → Prop
  | _, [] => True
  | t, op :: ops =>
    (∀ order, op = .bmca order → order.Nodup ∧ ∀ j, j < t.i.ports.length → j + 1 ∈ order) ∧
    ∀ t' obs, t.step op = .ok (t', obs) → NoRecovery t t' ∧ GoodT t' ops

def trun (t : TInst) : List Op → Option TInst
  | [] => some t
  | op :: ops =>
    match t.step op with
    | .error _ => none
    | .ok (t', _) => trun t' ops

theorem new_allwait (d : DefaultDS) (pt : Bool) (tp : TimeProps) : AllWait (TInst.new d pt tp) := by
  intro j p hp; cases hp

/-- **No reachable state leaves a port waiting on a timer that was never armed**: under a host that applies the
returned timer actions, in every state reachable from a new instance through frames, timestamps, BMCA runs, setting
changes, new ports and timer firings — a Listening port has its announce receipt timer armed, a Master its announce
and sync timers, a Slave its delay request timer. (Recovery from a peer-delay fault excepted: known finding.) -/
theorem reachable_allwait (d : DefaultDS) (pt : Bool) (tp : TimeProps) (ops : List Op) (t' : TInst)
    (hg : GoodT (TInst.new d pt tp) ops) (h : trun (TInst.new d pt tp) ops = some t') : AllWait t' := by
  have key : ∀ (ops : List Op) (t : TInst), AllWait t → C08.Inv t.i → GoodT t ops → trun t ops = some t' → AllWait t' := by
    intro ops
    induction ops with
    | nil => intro t hw _ _ hr; cases hr; exact hw
    | cons op ops ih =>
      intro t hw hinv hgt hr
      unfold trun at hr
      split at hr
      · cases hr
      · next t2 obs hs =>
        obtain ⟨hnr, hg2⟩ := hgt.2 t2 obs hs
        obtain ⟨q, hq, _⟩ := TInst.step_ok hs
        exact ih t2 (step_allwait t t2 op obs hw hinv (fun order ho => (hgt.1 order ho).1) hnr hs)
          (C08.step_inv t.i t2.i op obs q hinv hgt.1 hq) hg2 hr
  exact key ops _ (new_allwait d pt tp) (C08.init_inv d pt tp) hg h

/-- **Known finding, on the model**: no `timeMeasurement` call touches a timer, the one on which a Faulty port
recovers included — so a port that was Master when the fault hit comes back Listening with its announce receipt timer
not armed. -/
theorem recovery_arms_nothing (p p' : Port) (outs : List Out) (h : p.timeMeasurement = .ok (p', outs)) :
    ∀ o ∈ outs, o.isReset = false :=
  (timeMeasurement_touch h).noReset

/-- **Silence, Listening**: when the announce receipt timer of a port fires (it is armed: `reachable_allwait`) on an
instance that may be master, the port becomes Master and both its periodic timers are started at once -/
theorem receipt_timeout_makes_master (p : Port) (s : InstState) (hf : p.st ≠ .faulty) (hso : s.dflt.slaveOnly = false) :
    (p.handleReceiptTimer s).1.st = .master ∧
    Out.reset .announce (.exact 0) ∈ (p.handleReceiptTimer s).2 ∧ Out.reset .sync (.exact 0) ∈ (p.handleReceiptTimer s).2 := by
  by_cases hm : p.st = .master
  · rw [handleReceiptTimer_master hso hm]
    exact ⟨hm, List.mem_cons_self, List.mem_cons_of_mem _ List.mem_cons_self⟩
  · rw [handleReceiptTimer_toMaster hf hso hm]
    exact ⟨rfl, List.mem_append_right _ List.mem_cons_self, List.mem_append_right _ (List.mem_cons_of_mem _ List.mem_cons_self)⟩

/-- **Silence, Passive or Slave**: once the foreign master records have expired (C06: within the foreign master time
window) the BMCA decision for a port that is not Listening is M1 or M2 … -/
theorem silent_decision (own : DefaultDS) :
    recommend own none none false = some (.m1 own) ∨ recommend own none none false = some (.m2 own) := by
  unfold recommend
  simp only [Option.isNone_none, Bool.and_false, Bool.false_eq_true, if_false]
  split
  · left; rfl
  · right; rfl

/-- … which moves it to Master and starts both periodic timers (unless the instance is slave-only or the port is
Faulty or still multiport-disabled — that mark ages out within one announce interval) -/
theorem m_decision_makes_master (p : Port) (r : Recommended) (d : DefaultDS) (hr : (∃ x, r = .m1 x) ∨ ∃ x, r = .m2 x)
    (hso : d.slaveOnly = false) (hmp : p.multiportDisable = none) (hf : p.st ≠ .faulty) (hm : p.st ≠ .master) :
    portMove p r d = some (.master, some [.reset .announce (.exact 0), .reset .sync (.exact 0)]) := by
  have ht : portTarget p r d = (.master, some [.reset .announce (.exact 0), .reset .sync (.exact 0)]) := by
    have he : masterTarget d.slaveOnly p.multiportDisable.isSome = masterTarget false false := by rw [hso, hmp]; rfl
    rcases hr with ⟨x, rfl⟩ | ⟨x, rfl⟩
    · exact he
    · exact he
  rw [← ht]
  refine portMove_of_not_stays (not_or.2 ⟨hf, fun h => hm ?_⟩)
  rw [ht] at h
  exact (PState.isAt_iff rfl).1 h

/-- **Master, indefinitely**: every firing of the announce timer emits an Announce and re-arms the timer with the
configured interval, and the port stays Master -/
theorem master_keeps_announcing (p p' : Port) (s : InstState) (q q' : List FwdTlv) (loose : Bool) (outs : List Out)
    (hm : p.st = .master) (h : p.sendAnnounce s q loose = .ok (p', outs, q')) :
    p'.st = .master ∧ ∃ m, outs = [.reset .announce (.exact (intervalNs p.cfg.announceLog)), .sendGeneral (encode m) false] ∧
      m.body.type = .announce := by
  rw [sendAnnounce_master s q loose hm] at h; cases h
  exact ⟨hm, _, rfl, rfl⟩

/-- … and every firing of the sync timer emits a Sync and re-arms it with the configured interval -/
theorem master_keeps_syncing (p p' : Port) (s : InstState) (outs : List Out) (hm : p.st = .master)
    (h : p.sendSync s = .ok (p', outs)) :
    p'.st = .master ∧ ∃ ctx m, outs = [.reset .sync (.exact (intervalNs p.cfg.syncLog)), .sendEvent ctx (encode m) false] ∧
      m.body.type = .sync := by
  rw [sendSync_master s hm] at h; cases h
  exact ⟨hm, _, _, rfl, rfl⟩

/-- **A better master announcing steadily**: decision S1 makes the port its Slave and hands it both timers a Slave
needs, the delay request timer due at once -/
theorem s1_decision_makes_slave (p : Port) (a : Ann) (d : DefaultDS) (hf : p.st ≠ .faulty)
    (hnew : ∀ r sy dl l, p.st = .slave r sy dl l → r ≠ a.hdr.src) :
    portMove p (.s1 a) d = some (.slave a.hdr.src .empty .empty none, some [.reset .receipt .rand, .reset .delay (.exact 0)]) := by
  refine portMove_of_not_stays (r := .s1 a) (not_or.2 ⟨hf, fun h => ?_⟩)
  obtain ⟨sy, dl, l, e⟩ := PState.isAt_slave.1 h
  exact hnew _ sy dl l e rfl

/-- **Slave, at the configured cadence**: every firing of the delay request timer of a Slave port emits a Delay_Req
(Pdelay_Req on a P2P port) and re-arms the timer; the port stays Slave -/
theorem slave_keeps_requesting (p p' : Port) (s : InstState) (outs : List Out) (hs : p.st.isSlave = true)
    (h : p.sendDelayRequest s = .ok (p', outs)) :
    p'.st.isSlave = true ∧ ∃ ctx m ll, outs = [.reset .delay .rand, .sendEvent ctx (encode m) ll] ∧
      (m.body.type = .delayReq ∨ m.body.type = .pdelayReq) := by
  cases hp : p.cfg.p2p with
  | true => rw [sendDelayRequest_p2p s hp] at h; cases h; exact ⟨hs, _, _, _, rfl, Or.inr rfl⟩
  | false =>
    cases hst : p.st with
    | slave remote sy dl last =>
      rw [sendDelayRequest_slave s hp hst] at h; cases h
      exact ⟨rfl, _, _, _, rfl, Or.inl rfl⟩
    | _ => rw [hst] at hs; cases hs

end Statime.C12
