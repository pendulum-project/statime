import StatimeModel.Lemmas.ServoCmds
import StatimeModel.Model.Port
import StatimeModel.Lemmas.Slave
import StatimeModel.Generated.ServoConsts
/-
C13 — Clock control commands stay finite and within configured bounds.

The servo model (Model/Servo.lean) applies the rounding operations of binary64 as a parameter `A`;
every theorem below is for every `A`, every configuration with a usable bound, every history of calls
and every pattern of clock refusals. Comparisons and the f64 <-> Duration conversions are the bit-level
definitions of Model/F64.lean.

What is *not* proved: that the estimator never produces a NaN (frequency commands are "finite unless
NaN"), anything about the basic filter's frequency, which has no bound to clamp to, and that a servo which
has not programmed a frequency yet never *steps* (it provably programs no frequency). Those rest on
the bit-exact correspondence and the oracles of the `filt` and `kports` streams.
-/
namespace Statime.C13
open Statime Statime.Servo

theorem new_cfg (A : Arith) (c : Cfg) (k : Kalman) (h : Kalman.new A c = some k) : k.cfg = c ∧ k.cur = none := by
  unfold Kalman.new at h
  obtain ⟨v, _, h⟩ := Option.map_eq_some_iff.1 h
  cases h
  exact ⟨rfl, rfl⟩

theorem krun_ok (A : Arith) (c : Cfg) (hg : GoodBound c.mf) (k0 : Kalman) (h0 : Kalman.new A c = some k0)
    (ops : List KOp) : ∀ cs ∈ krun A (some k0) ops, ∀ cmd ∈ cs, CmdOK A c cmd := by
  -- the invariant: the configuration of the live servo is still `c`, the one whose bound is usable
  refine krun_inv (I := fun k => k.cfg = c) (P := fun _ => True) (fun _ h => nomatch h) ?_ ops (some k0)
    (fun _ h => Option.some.inj h ▸ (new_cfg A c k0 h0).1) (fun _ _ => trivial)
  intro k op hc _
  subst hc
  exact ⟨fun cmd h => ((kstep_origin A k op).1 cmd h).ok hg, (kstep_origin A k op).2⟩

/-- **Frequency bound.** Along every history of a Kalman servo created with a usable maximum frequency offset, every
frequency given to the clock by a call that returns compares within `-max ..= max`, and is finite unless it is a NaN.
(A call that panics is `(none, [])` in `kstep`: what it had given to the clock before is outside the theorem.) -/
theorem frequency_within_bound (A : Arith) (c : Cfg) (hg : GoodBound c.mf) (k0 : Kalman)
    (h0 : Kalman.new A c = some k0) (ops : List KOp) :
    ∀ cs ∈ krun A (some k0) ops, ∀ f ok, Cmd.freq f ok ∈ cs →
      Within c.mf f ∧ (f64IsNaN f = false → f64IsFinite f = true) :=
  fun cs hcs _ _ hf => krun_ok A c hg k0 h0 ops cs hcs _ hf

/-- **Step threshold.** Every step given to the clock (by a call that returns) is, in magnitude, at least the step
threshold (both as `Duration`s: the threshold in seconds as the servo compares it, converted the way the step is). -/
theorem step_at_least_threshold (A : Arith) (c : Cfg) (hg : GoodBound c.mf) (k0 : Kalman)
    (h0 : Kalman.new A c = some k0) (ops : List KOp) :
    ∀ cs ∈ krun A (some k0) ops, ∀ d ok, Cmd.step d ok ∈ cs →
      ∀ dthr, durFromSeconds (durSeconds A c.thr) = some dthr → dthr ≤ (d.natAbs : Int) :=
  fun cs hcs _ _ hd => krun_ok A c hg k0 h0 ops cs hcs _ hd

/-- **Demobilisation.** The call that ends a servo gives the clock at most one command, and that
command is a frequency within the bound. -/
theorem demobilize_at_most_one_command (A : Arith) (k : Kalman) (hg : GoodBound k.cfg.mf) (clk : ClockIn) :
    (kstep A (some k) (.demob clk)).1 = none ∧
    ((kstep A (some k) (.demob clk)).2 = [] ∨
      ∃ f ok, (kstep A (some k) (.demob clk)).2 = [.freq f ok] ∧ FreqOK k.cfg f) := by
  refine ⟨by rw [kstep_demob], ?_⟩
  · rcases kstep_timer A k (.demob clk) (fun _ _ h => nomatch h) with e | ⟨_, k', h⟩
    · exact .inl e
    · obtain ⟨_, ⟨_, _, e⟩ | ⟨cur, ok, _, e⟩⟩ := changeFrequency_some h
      · exact .inl e
      · exact .inr ⟨_, ok, e, clampFrequency_ok A _ _ _ hg⟩

/-- … and none thereafter: a servo that is gone gives no command, whatever is called on it. -/
theorem nothing_after_demobilize (A : Arith) (ops : List KOp) : ∀ cs ∈ krun A none ops, cs = [] :=
  krun_inv (A := A) (I := fun _ => False) (P := fun _ => True) (Q := (· = [])) rfl (fun _ _ h => h.elim) ops none
    (fun _ h => nomatch h) (fun _ _ => trivial)

/-- The filter a port installs in place of the demobilised one has programmed nothing yet: an `update` or a
`demobilize` called on it gives the clock no command, whatever the bound (`hg` is not used). -/
theorem fresh_filter_is_silent (A : Arith) (c : Cfg) (hg : GoodBound c.mf) (k : Kalman) (h : Kalman.new A c = some k)
    (clk : ClockIn) : (kstep A (some k) (.upd clk)).2 = [] ∧ (kstep A (some k) (.demob clk)).2 = [] := by
  have silent : ∀ op, (∀ m clk, op ≠ .meas m clk) → (kstep A (some k) op).2 = [] := fun op hop =>
    (kstep_timer A k op hop).elim id fun ⟨_, _, hf⟩ => (changeFrequency_unarmed (new_cfg A c k h).2 hf).2
  exact ⟨silent _ (fun _ _ e => nomatch e), silent _ (fun _ _ e => nomatch e)⟩

/-- **A servo that has not programmed a frequency yet never programs one unless it is handed a Sync or Delay_Resp
offset** (which only the Slave port hands to its servo: C08.non_slave_port_feeds_peer_delay_only). Along every history
of peer delay results, filter update timers and a final demobilisation, no call issues a frequency command.

Partial with respect to "issues no command at all": `steer` would still *step* if the servo's own offset estimate
exceeded the step threshold. That estimate starts at zero and no offset is ever absorbed on such a history, so it
moves only if the arithmetic makes `0 · x` non-zero; the theorem is for every arithmetic and therefore cannot exclude
it (the `kports` stream samples it with the real binary64 operations). -/
theorem unarmed_servo_never_programs_a_frequency_partial (A : Arith) (k : Kalman) (hc : k.cur = none) (ops : List KOp)
    (hq : ∀ op ∈ ops, Quiet op) : ∀ cs ∈ krun A (some k) ops, NoFreq cs :=
  krun_inv (I := fun k => k.cur = none) (fun _ h => nomatch h) (kstep_unarmed A) ops (some k)
    (fun _ h => Option.some.inj h ▸ hc) hq

/-- the servo a port installs when it leaves the slave state is such a servo -/
theorem fresh_servo_never_programs_a_frequency_partial (A : Arith) (c : Cfg) (k : Kalman) (h : Kalman.new A c = some k)
    (ops : List KOp) (hq : ∀ op ∈ ops, Quiet op) : ∀ cs ∈ krun A (some k) ops, NoFreq cs :=
  unarmed_servo_never_programs_a_frequency_partial A k (new_cfg A c k h).2 ops hq

/-- a history the hypotheses admit: peer delay results, an update, the demobilisation -/
example : ∀ op ∈ ([.meas ⟨5, none, none, some 100, none, none⟩ ⟨7, false, false⟩, .upd ⟨8, false, false⟩,
    .demob ⟨9, false, false⟩] : List KOp), Quiet op := by
  intro op h
  simp only [List.mem_cons, List.not_mem_nil, or_false] at h
  rcases h with h | h | h <;> subst h <;> simp [Quiet, PeerOnly]

/-- Port level (`set_forced_port_state`): a state change demobilises the port's filter, exactly once, when the
state it replaces is Slave (also when the new state is Slave again, of another master) or either state is Faulty, and
not otherwise. -/
theorem leaving_slave_demobilizes_once (p : Port) (st : PState) :
    (p.setState st).2 = (if p.st.isSlave || p.st = .faulty || st = .faulty then [.demobilize] else []) :=
  setState_snd p st

theorem clamp_is_identity_inside (A : Arith) (cur err b : Nat) (h : Within b (A.add cur err)) :
    clampFrequency A cur err b = A.add cur err := by
  simp only [clampFrequency, h.1, h.2, Bool.false_eq_true, if_false]

/-! non-vacuity: the default bound 400.0 and the test-suite bound 10.0 are usable bounds; 400.00000000000006
(the value the code programmed before the `fix:` commit) is outside of 400.0 -/
example : GoodBound 0x4079000000000000 := by unfold GoodBound; decide
example : GoodBound 0x4024000000000000 := by unfold GoodBound; decide
example : ¬ Within 0x4079000000000000 0x4079000000000001 := by unfold Within; decide
example : Within 0x4079000000000000 0xC079000000000000 := by unfold Within; decide

/-! tie to the source: the constants of `chi_1` and the sample buffer size, as extracted from kalman.rs -/
theorem chi_constants_match_source :
    Generated.chiConsts = some [chiP, chiA1, chiA2, chiA3, chiA4, chiA5] ∧ Generated.estimatorSamples = some 32 := by
  decide

end Statime.C13
