import StatimeModel.Lemmas.Decision
import StatimeModel.Lemmas.Frames
import StatimeModel.Model.Instance
/-
C14 — Peer-delay measurement is exact and guarded against multiple responders.

Proved of the port handlers. Besides what the headed theorems say: a Faulty port sends no master traffic, measures
nothing from Sync or Delay_Resp, is never Ebest and is moved neither by a BMCA decision (`faulty_bmca_stays`, stated for
ports that are not master-only) nor by the receipt timeout.

Tie: the `inst` stream contains directed Pdelay exchanges (transmit timestamp, Pdelay_Resp,
Pdelay_Resp_Follow_Up from one or two responders, every order, duplicates, losses) on P2P ports
in every port state; peer-delay measurements and the Faulty transitions are compared with the
model, and an independent oracle re-derives each link delay from the logged frames.
-/
namespace Statime.C14
open Statime

/-- **Exactness.** When `extract_measurement` consumes a complete peer exchange it hands the filter
`((t4' − t1) − (t3' − t2)) / 2` (`Spec.peerDelay`; `/ 2` truncating toward zero as the `fixed` crate does) and nothing
else; a Faulty port comes back to Listening with a fresh filter. -/
theorem extract_peer (p p' : Port) (id : Nat) (resp : PortId) (t1 t2 t3 t4 : Nat) (m : Option Measurement) (o : List Out)
    (hpeer : p.peer = .measuring id (some resp) (some t1) (some t2) (some t3) (some t4))
    (h : p.extract = .ok (p', m, o)) :
    ∃ v, Spec.peerDelay t1 t2 t3 t4 = some v ∧ m = some { eventTime := t4, peerDelay := some v } ∧
      p'.peer = .post id resp ∧
      ((p.st = .faulty ∧ p'.st = .listening ∧ o = [.demobilize]) ∨ (p.st ≠ .faulty ∧ p'.st = p.st ∧ o = [])) := by
  have hx := extract_cases p
  rw [h] at hx
  cases hx with
  | nothing hn => exact absurd hpeer (hn.1 _ _ _ _ _ _)
  | took ht =>
    cases ht with
    | sync _ hp => exact absurd hpeer (hp _ _ _ _ _ _)
    | delay _ _ hp => exact absurd hpeer (hp _ _ _ _ _ _)
    | peer hp' hm hf =>
      rw [hpeer] at hp'; cases hp'
      obtain ⟨v, hv, rfl⟩ := peerMeasurement_spec _ _ _ _ _ hm
      exact ⟨v, hv, rfl, rfl, .inr ⟨hf, rfl, rfl⟩⟩
    | recover hp' hm hf =>
      rw [hpeer] at hp'; cases hp'
      obtain ⟨v, hv, rfl⟩ := peerMeasurement_spec _ _ _ _ _ hm
      exact ⟨v, hv, rfl, rfl, .inl ⟨hf, rfl, setState_snd_of_faulty hf _⟩⟩

/-- a response (or follow-up) to the current request from a device other than the responder already
seen — before or after the measurement was taken -/
def SecondResponder (s : PeerSt) (seq : Nat) (src : PortId) : Prop :=
  (∃ r, s = .post seq r ∧ r ≠ src) ∨ (∃ r a b c d, s = .measuring seq (some r) a b c d ∧ r ≠ src)

theorem classify_second (s : PeerSt) (seq : Nat) (src : PortId) (h : SecondResponder s seq src) :
    s.classify seq src = some true := by
  rcases h with ⟨r, rfl, hne⟩ | ⟨r, a, b, c, d, rfl, hne⟩
  · simp [PeerSt.classify, hne]
  · simp [PeerSt.classify, hne]

/-- **Multiple responders.** A Pdelay_Resp for the current request from a second device makes the port Faulty; its
timestamps are not stored and nothing is measured. The servo is demobilised (`set_forced_port_state` does so whenever
the new state is Faulty, also on a port that is Faulty already). -/
theorem multi_responder_faulty (p : Port) (h : Header) (rx : WireTs) (ts : Nat)
    (hsec : SecondResponder p.peer h.seq h.src) :
    p.handlePdelayResp h rx p.id ts = .ok ({ p with st := .faulty }, [.demobilize]) := by
  rw [handlePdelayResp_fault rx ts (classify_second _ _ _ hsec), setState_faulty]

theorem multi_responder_faulty_fu (p : Port) (h : Header) (o : WireTs)
    (hsec : SecondResponder p.peer h.seq h.src) :
    p.handlePdelayRespFu h o p.id = .ok ({ p with st := .faulty }, [.demobilize]) := by
  rw [handlePdelayRespFu_fault o (classify_second _ _ _ hsec), setState_faulty]

theorem other_requester_ignored (p : Port) (h : Header) (rx : WireTs) (req : PortId) (ts : Nat) (hne : p.id ≠ req) :
    p.handlePdelayResp h rx req ts = .ok (p, []) ∧ p.handlePdelayRespFu h rx req = .ok (p, []) := by
  unfold Port.handlePdelayResp Port.handlePdelayRespFu
  simp [hne]

/-- **One responder per stored exchange.** The handlers store a response only when `classify` answers `some false`
(`hcl` of `PdelayRespStored` / `PdelayRespFuStored`, Lemmas/Slave.lean): exactly when it is for the request being
measured and no other responder has been seen for it. -/
theorem classify_false_iff (s : PeerSt) (seq : Nat) (src : PortId) :
    s.classify seq src = some false ↔
      ∃ r a b c d, s = .measuring seq r a b c d ∧ (r = none ∨ r = some src) := by
  cases s with
  | empty => exact ⟨(fun h => nomatch h), (fun ⟨_, _, _, _, _, e, _⟩ => nomatch e)⟩
  | post i r =>
    refine ⟨fun h => ?_, (fun ⟨_, _, _, _, _, e, _⟩ => nomatch e)⟩
    simp only [PeerSt.classify] at h
    split at h <;> cases h
  | measuring i r a b c d =>
    -- the table of `classify`: the id is that of the request or not, no responder yet or one
    by_cases e : i = seq
    · cases r <;> simp [PeerSt.classify, e, eq_comm]
    · cases r <;> simp [PeerSt.classify, e]

/-- `classify = none`: another sequence id, or no request outstanding -/
theorem stale_response_ignored (p : Port) (h : Header) (rx : WireTs) (req : PortId) (ts : Nat)
    (hc : p.peer.classify h.seq h.src = none) :
    p.handlePdelayResp h rx req ts = .ok (p, []) ∧ p.handlePdelayRespFu h rx req = .ok (p, []) := by
  unfold Port.handlePdelayResp Port.handlePdelayRespFu
  by_cases e : p.id ≠ req
  · simp [e]
  · simp [e, hc]

theorem faulty_no_master_traffic (p : Port) (s : InstState) (hf : p.st = .faulty) (q : List FwdTlv) (loose : Bool)
    (h : Header) (ts id : Nat) :
    p.sendSync s = .ok (p, []) ∧ p.sendAnnounce s q loose = .ok (p, [], q) ∧
    p.handleDelayReq h ts = .ok (p, []) ∧ p.handleSyncTs s id ts = .ok (p, []) :=
  have hm : p.st ≠ .master := fun e => nomatch hf.symm.trans e
  ⟨sendSync_other s hm, sendAnnounce_other s q loose hm, handleDelayReq_other h ts hm, handleSyncTs_other s id ts hm⟩

theorem faulty_no_sync_delay_measurement (p : Port) (hf : p.st = .faulty) (h : Header) (o : WireTs) (rx : WireTs)
    (req : PortId) (ts id : Nat) :
    p.handleSync h o ts = .ok (p, []) ∧ p.handleFollowUp h o = .ok (p, []) ∧
    p.handleDelayResp h rx req = .ok (p, []) ∧ p.handleDelayTs id ts = .ok (p, []) :=
  have hn : ∀ {P : Prop} {remote sy d l}, p.st = .slave remote sy d l → P := fun e => nomatch hf.symm.trans e
  ⟨handleSync_other p h o ts fun _ _ _ _ => hn, handleFollowUp_other p h o fun _ _ _ _ => hn,
    handleDelayResp_other p h rx req fun _ _ _ _ => hn, handleDelayTs_notSlave (by rw [hf]; rfl) id ts⟩

theorem faulty_not_in_ebest (p : Port) (lb : Option Best) (hf : p.st = .faulty) : bestForBmca p lb = none := by
  simp [bestForBmca, hf]

/-- `hm`: for a master-only port an S1 recommendation is the debug assertion of `set_recommended_port_state`, in any
state -/
theorem faulty_bmca_stays (p : Port) (r : Recommended) (d : DefaultDS) (hf : p.st = .faulty) (hm : p.cfg.masterOnly = false) :
    p.setRecommendedPortState r d = .ok (p, [], none) := by
  unfold Port.setRecommendedPortState
  rw [if_neg (fun h => Bool.false_ne_true (hm.symm.trans h.2)), portMove_of_stays (.inl hf)]

/-- the announce receipt timeout leaves a Faulty port Faulty (since the `fix:` commit; before it the
port was forced to Master — known_findings.json) -/
theorem faulty_receipt_timer (p : Port) (s : InstState) (hf : p.st = .faulty) :
    (p.handleReceiptTimer s).1 = p ∧ (p.handleReceiptTimer s).2 = [.reset .receipt .rand] := by
  rw [handleReceiptTimer_faulty s hf]
  exact ⟨rfl, rfl⟩

/-- **Recovery.** A Faulty port whose next exchange completes returns to Listening, gets a fresh servo, and hands the
filter the exact link delay. -/
theorem faulty_recovers (p p' : Port) (id : Nat) (resp : PortId) (t1 t2 t3 t4 : Nat) (outs : List Out)
    (hf : p.st = .faulty) (hpeer : p.peer = .measuring id (some resp) (some t1) (some t2) (some t3) (some t4))
    (h : p.timeMeasurement = .ok (p', outs)) :
    ∃ v, Spec.peerDelay t1 t2 t3 t4 = some v ∧ p'.st = .listening ∧ p'.peer = .post id resp ∧
      outs = [.demobilize, .measurement { eventTime := t4, peerDelay := some v }] := by
  unfold Port.timeMeasurement at h
  cases hex : p.extract with
  | error e => rw [hex] at h; cases h
  | ok r =>
    obtain ⟨p1, m, o1⟩ := r
    rw [hex] at h
    obtain ⟨v, hv, rfl, hpp, ⟨_, hl, rfl⟩ | ⟨hnf, _⟩⟩ := extract_peer p p1 id resp t1 t2 t3 t4 m o1 hpeer hex
    · cases h
      exact ⟨v, hv, hl, hpp, rfl⟩
    · exact absurd hf hnf

end Statime.C14
