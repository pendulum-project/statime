import StatimeModel.Lemmas.Frames
import StatimeModel.Lemmas.Receive
import StatimeModel.Lemmas.Tlv
import StatimeModel.Lemmas.WireRoundtrip
import StatimeModel.Lemmas.ForwarderH
import StatimeModel.Lemmas.ForwarderPort
import StatimeModel.Generated.ForwarderGlue
/-
C15 — Boundary clocks propagate TLVs faithfully and break path-trace loops.

What an accepted Announce hands to the host (`forward_actions`); what the announce timer of a Master port puts
into its Announce from the host's queue (`announce_suffix`), and that the frame fits, decodes and reads back TLV by
TLV; the path trace rules; and the daemon's `TlvForwarder` as the queue those theorems take as a list.
-/
namespace Statime.C15
open Statime

/-- **Which TLVs are handed to the host for forwarding**: exactly the TLVs of propagating type of an Announce that
was accepted into the foreign master list, in arrival order, tagged with the sender — and nothing at all for an
Announce that was not accepted. -/
theorem forward_actions (p : Port) (m : Msg) (a : Ann) :
    (p.announceRegister m a).2.filterMap (fun o => match o with | .forward t s => some (t, s) | _ => none) =
      if (bmcaRegister p.fml p.cfg.acceptable a).2 then
        ((tlvs m.suffix).filter (fun t => tlvPropagates t.ty)).map (fun t => (t, m.header.src))
      else [] := by
  -- `.2` and `filterMap` go through every `if` of the handler; of what a branch reports (`demobilize` of the old
  -- filter, the receipt timer, the forwards) only the forwards pass the filter, so all accepting branches agree
  simp only [Port.announceRegister, Port.setState, apply_ite Prod.snd, apply_ite (List.filterMap _),
    List.filterMap_append, List.filterMap_map, Function.comp_def, List.filterMap_eq_map', List.filterMap_cons,
    List.filterMap_nil, List.nil_append, ite_self]

/-- the path trace TLV of this instance: the stored path with the own identity appended -/
def ownPathTlv (s : InstState) : Tlv := ⟨TLV_PATH_TRACE, (s.pathTrace ++ [s.dflt.clockIdentity]).flatMap clockIdBytes⟩

/-- the TLVs (not bytes) of the path trace part of an emitted Announce: none or the own path TLV -/
def pathPart (s : InstState) (p : Port) : List Tlv :=
  if s.pathEnable ∧ s.pathTrace.length < PATH_TRACE_CAP ∧ announceMargin s p > (ownPathTlv s).wireSize then [ownPathTlv s] else []

theorem announcePathTlv_eq (s : InstState) (p : Port) :
    announcePathTlv s (announceMargin s p) =
      ((pathPart s p).flatMap Tlv.bytes, announceMargin s p - ((pathPart s p).map Tlv.wireSize).sum) := by
  unfold announcePathTlv pathPart ownPathTlv
  generalize announceMargin s p = M
  -- the three nested tests of `announcePathTlv` are the one conjunction of `pathPart`
  by_cases h1 : s.pathEnable = true
  · by_cases h2 : s.pathTrace.length < PATH_TRACE_CAP
    · by_cases h3 : M > (⟨TLV_PATH_TRACE, (s.pathTrace ++ [s.dflt.clockIdentity]).flatMap clockIdBytes⟩ : Tlv).wireSize
      · rw [if_pos h1, if_pos h2, if_pos h3, if_pos ⟨h1, h2, h3⟩, List.flatMap_singleton]
        rfl
      · rw [if_pos h1, if_pos h2, if_neg h3, if_neg (fun h => h3 h.2.2)]
        rfl
    · rw [if_pos h1, if_neg h2, if_neg (fun h => h2 h.2.1)]
      rfl
  · rw [if_neg h1, if_neg (fun h => h1 h.1)]
    rfl

theorem sendAnnounce_master_ok {p p' : Port} {s : InstState} {q q' : List FwdTlv} {loose : Bool} {outs : List Out}
    (hm : p.st = .master) (h : p.sendAnnounce s q loose = .ok (p', outs, q')) :
    q' = (p.announceFwd s q loose).2 ∧
    outs = [.reset .announce (.exact (intervalNs p.cfg.announceLog)),
            .sendGeneral (encode (p.announceMsg s (p.announceFwd s q loose).1)) false] := by
  rw [sendAnnounce_master s q loose hm] at h; cases h
  exact ⟨rfl, rfl⟩

/-- the announce timer of a Master port, as a relation between the host's queue `q`, the prefix `taken` it consumes, the
rest `q'` it returns and the TLV suffix `sfx` of its Announce (in words: `announce_suffix`) -/
structure Forwards (p : Port) (s : InstState) (loose : Bool) (q taken q' : List FwdTlv) (sfx : List UInt8) : Prop where
  split : q = taken ++ q'
  suffix : sfx =
    ((pathPart s p) ++ (taken.filter (fwdKeep s.parent.parentPort s.pathEnable)).map (fun t => t.tlv)).flatMap Tlv.bytes
  room : ((pathPart s p).map Tlv.wireSize).sum + fwdUsed s.parent.parentPort s.pathEnable taken ≤ announceMargin s p
  blocked : ∀ t rest, q' = t :: rest →
    fwdFits loose t.tlv.wireSize
      (announceMargin s p - ((pathPart s p).map Tlv.wireSize).sum - fwdUsed s.parent.parentPort s.pathEnable taken) = false

theorem announceFwd_eq (p : Port) (s : InstState) (q : List FwdTlv) (loose : Bool) :
    p.announceFwd s q loose = fwdLoop s.parent.parentPort s.pathEnable loose (q.length + 1) q
      (announceMargin s p - ((pathPart s p).map Tlv.wireSize).sum) [] := by
  unfold Port.announceFwd
  rw [announcePathTlv_eq]

theorem announceMsg_suffix (p : Port) (s : InstState) (q : List FwdTlv) (loose : Bool) :
    ∃ taken, Forwards p s loose q taken (p.announceFwd s q loose).2 (p.announceMsg s (p.announceFwd s q loose).1).suffix := by
  have hle : ((pathPart s p).map Tlv.wireSize).sum ≤ announceMargin s p := by
    unfold pathPart
    split
    · rename_i hc
      exact Nat.le_of_lt hc.2.2
    · exact Nat.zero_le _
  obtain ⟨taken, h1, h2, h3, h4⟩ := fwdLoop_spec s.parent.parentPort s.pathEnable loose (q.length + 1) q
    (announceMargin s p - ((pathPart s p).map Tlv.wireSize).sum) [] (Nat.lt_succ_self _)
  rw [← announceFwd_eq] at h1 h2 h4
  refine ⟨taken, h1, ?_, Nat.add_le_of_le_sub' hle h3, h4⟩
  unfold Port.announceMsg
  rw [announcePathTlv_eq, h2, List.flatMap_append]
  rfl

/-- **Forwarding, stated for the emitted Announce.** On the announce timer of a Master port the host's queue `q`
splits into a consumed prefix `taken` and the returned rest `q'`; the TLV suffix of the Announce is the own path
trace TLV (when the option is on and it fits) followed by exactly the consumed TLVs that were sent by the current
parent (and are not PATH_TRACE when the option is on: `fwdKeep_iff`), byte for byte and in queue order. Nothing of
another sender is ever forwarded, nothing is forwarded twice (the consumed prefix is gone from the queue), and what
is left behind starts with a TLV that does not fit the room that remains. -/
theorem announce_suffix (p p' : Port) (s : InstState) (q q' : List FwdTlv) (loose : Bool) (outs : List Out)
    (hm : p.st = .master) (h : p.sendAnnounce s q loose = .ok (p', outs, q')) :
    ∃ (m : Msg) (taken : List FwdTlv),
      outs = [.reset .announce (.exact (intervalNs p.cfg.announceLog)), .sendGeneral (encode m) false] ∧
      m.body.type = .announce ∧ m.header.src = p.id ∧ Forwards p s loose q taken q' m.suffix := by
  obtain ⟨hq', ho⟩ := sendAnnounce_master_ok hm h
  obtain ⟨taken, t⟩ := announceMsg_suffix p s q loose
  exact ⟨_, taken, ho, rfl, rfl, hq' ▸ t⟩

theorem announceMargin_eq (s : InstState) (p : Port) : announceMargin s p = MAX_DATA_LEN - 64 := rfl

/-- the Announce built from any queue is at most 1024 octets long: the loop never takes more than the room -/
theorem announceMsg_size (p : Port) (s : InstState) (q : List FwdTlv) (loose : Bool) :
    (p.announceMsg s (p.announceFwd s q loose).1).wireSize ≤ MAX_DATA_LEN := by
  obtain ⟨taken, t⟩ := announceMsg_suffix p s q loose
  unfold Msg.wireSize
  rw [t.suffix, flatMap_bytes_length, List.map_append, List.sum_append, List.map_map]
  -- header and Announce body are the 64 octets that `announceMargin` sets aside
  exact Nat.add_le_of_le_sub' (by decide : 34 + 30 ≤ 1024) t.room

/-- **Forwarding never makes the frame exceed the maximum size**: every Announce a Master port emits is at most
1024 octets long (that it is always emitted is `announce_always_sent`). -/
theorem announce_fits (p p' : Port) (s : InstState) (q q' : List FwdTlv) (loose : Bool) (outs : List Out)
    (hm : p.st = .master) (h : p.sendAnnounce s q loose = .ok (p', outs, q')) :
    ∃ m, outs = [.reset .announce (.exact (intervalNs p.cfg.announceLog)), .sendGeneral (encode m) false] ∧
      (encode m).length ≤ MAX_DATA_LEN :=
  ⟨_, (sendAnnounce_master_ok hm h).2, encode_length _ ▸ announceMsg_size p s q loose⟩

/-- the announce timer of a Master port never fails -/
theorem announce_always_sent (p : Port) (s : InstState) (q : List FwdTlv) (loose : Bool) (hm : p.st = .master) :
    ∃ p' outs q', p.sendAnnounce s q loose = .ok (p', outs, q') ∧ (sentFrames outs).length = 1 :=
  ⟨_, _, _, sendAnnounce_master s q loose hm, rfl⟩

/-- what the Rust types guarantee of the values that go into an Announce: the width of each integer type and, for the
accuracy, that it is an octet the `ClockAccuracy` enum keeps (`normAccuracy acc = acc`; any other reads back as 0) -/
def AnnounceRanges (p : Port) (s : InstState) : Prop :=
  s.dflt.sdoId < 4096 ∧ s.dflt.domain < 256 ∧ p.id.WF ∧ p.cfg.minorVersion < 16 ∧ p.annSeq < 65536 ∧
  (∀ v, s.tp.utcOffset = some v → -32768 ≤ v ∧ v < 32768) ∧ s.parent.gmP1 < 256 ∧ s.parent.gmQuality.clockClass < 256 ∧
  (s.parent.gmQuality.accuracy < 256 ∧ normAccuracy s.parent.gmQuality.accuracy = s.parent.gmQuality.accuracy) ∧
  s.parent.gmQuality.variance < 65536 ∧ s.parent.gmP2 < 256 ∧ s.parent.gmIdentity < 18446744073709551616 ∧
  s.stepsRemoved < 65536 ∧ s.tp.timeSource < 256

theorem msgAnnounce_WF (p : Port) (s : InstState) (hr : AnnounceRanges p s) :
    (msgAnnounce s p.id p.annSeq p.cfg.minorVersion).header.WF ∧
    (msgAnnounce s p.id p.annSeq p.cfg.minorVersion).body.WF := by
  -- `hgm`: the ranges from `gmP1` on, which are the fields of `AnnounceBody.WF` after the UTC offset, in its order
  obtain ⟨hsdo, hdomain, hid, hminor, hseq, hutc, hgm⟩ := hr
  refine ⟨Header.WF_v2 _ hsdo hminor hdomain hid hseq, ?_⟩
  show AnnounceBody.WF _
  refine ⟨zeroTs_WF, ?_, hgm⟩
  show -32768 ≤ s.tp.utcOffset.getD 0 ∧ s.tp.utcOffset.getD 0 < 32768
  cases hu : s.tp.utcOffset with
  | none => exact ⟨(by decide), (by decide)⟩
  | some v => exact hutc v hu

theorem clockIdBytes_length (c : Nat) : (clockIdBytes c).length = 8 := beBytes_length c 8

theorem flatMap_clockId_length (l : List Nat) : (l.flatMap clockIdBytes).length = 8 * l.length := by
  induction l with
  | nil => rfl
  | cons x xs ih =>
    rw [List.flatMap_cons, List.length_append, clockIdBytes_length, List.length_cons, ih, Nat.mul_succ, Nat.add_comm]

theorem ownPathTlv_WF (s : InstState) (h : s.pathTrace.length < PATH_TRACE_CAP) : (ownPathTlv s).WF := by
  unfold ownPathTlv Tlv.WF
  dsimp only
  rw [flatMap_clockId_length, List.length_append, List.length_singleton]
  -- `8 (n + 1)` is even and at most `8 · 128`
  exact ⟨by decide, Nat.mod_eq_zero_of_dvd (Nat.dvd_trans (by decide) (Nat.dvd_mul_right 8 _)),
    Nat.lt_of_le_of_lt (Nat.mul_le_mul_left 8 (Nat.succ_le_of_lt h)) (by decide)⟩

theorem suffixTlvs_WF (s : InstState) (p : Port) {q taken q' : List FwdTlv} (hq : ∀ t ∈ q, t.tlv.WF)
    (hsplit : q = taken ++ q') :
    ∀ t ∈ pathPart s p ++ (taken.filter (fwdKeep s.parent.parentPort s.pathEnable)).map (fun t => t.tlv), t.WF := by
  intro t ht
  rcases List.mem_append.1 ht with h1 | h1
  · unfold pathPart at h1
    split at h1
    · rename_i hc
      rw [List.mem_singleton.1 h1]
      exact ownPathTlv_WF s hc.2.1
    · cases h1
  · obtain ⟨ft, hft, rfl⟩ := List.mem_map.1 h1
    exact hq ft (hsplit ▸ List.mem_append_left _ (List.mem_filter.1 hft).1)

/-- **Forwarding never makes the frame undecodable by the library's own parser**: when every queued TLV is `Tlv.WF`
(a hypothesis: that the TLVs the parser hands over are is proved nowhere), every Announce a Master port emits decodes
to the message it was built from. -/
theorem announce_decodes (p p' : Port) (s : InstState) (q q' : List FwdTlv) (loose : Bool) (outs : List Out)
    (hm : p.st = .master) (hr : AnnounceRanges p s) (hq : ∀ t ∈ q, t.tlv.WF)
    (h : p.sendAnnounce s q loose = .ok (p', outs, q')) :
    ∃ m, outs = [.reset .announce (.exact (intervalNs p.cfg.announceLog)), .sendGeneral (encode m) false] ∧
      decode (encode m) = .ok m := by
  obtain ⟨taken, t⟩ := announceMsg_suffix p s q loose
  obtain ⟨hh, hb⟩ := msgAnnounce_WF p s hr
  refine ⟨_, (sendAnnounce_master_ok hm h).2, decode_encode _ ⟨hh, hb, ?_, ?_⟩⟩
  · rw [t.suffix]
    exact (tlv_roundtrip _ (suffixTlvs_WF s p hq t.split) _ (Nat.le_refl _)).1
  · exact Nat.lt_of_le_of_lt (announceMsg_size p s q loose) (by decide)

/-- **With the path-trace option on, an emitted Announce carries the stored path with the own identity appended**
(as its first TLV), whenever the path has room for one more entry and the TLV fits the Announce. -/
theorem announce_path_trace (p p' : Port) (s : InstState) (q q' : List FwdTlv) (loose : Bool) (outs : List Out)
    (hm : p.st = .master) (hpe : s.pathEnable = true) (hlen : s.pathTrace.length < PATH_TRACE_CAP)
    (hroom : announceMargin s p > (ownPathTlv s).wireSize)
    (h : p.sendAnnounce s q loose = .ok (p', outs, q')) :
    ∃ (m : Msg) (rest : List UInt8), outs = [.reset .announce (.exact (intervalNs p.cfg.announceLog)), .sendGeneral (encode m) false] ∧
      m.suffix = (ownPathTlv s).bytes ++ rest ∧
      (ownPathTlv s).ty = TLV_PATH_TRACE ∧ (ownPathTlv s).value = (s.pathTrace ++ [s.dflt.clockIdentity]).flatMap clockIdBytes := by
  obtain ⟨taken, t⟩ := announceMsg_suffix p s q loose
  have hs := t.suffix
  have : pathPart s p = [ownPathTlv s] := if_pos ⟨hpe, hlen, hroom⟩
  rw [this, List.cons_append, List.flatMap_cons] at hs
  exact ⟨_, _, (sendAnnounce_master_ok hm h).2, hs, rfl, rfl⟩

/-- the path TLV fits exactly when the stored path has at most 118 entries (4 + 8·(n+1) < 1024 − 64): with longer
stored paths the Announce is sent without it — there is no room, and the frame must not exceed 1024 octets -/
theorem path_tlv_fits_iff (p : Port) (s : InstState) :
    announceMargin s p > (ownPathTlv s).wireSize ↔ s.pathTrace.length ≤ 118 := by
  rw [announceMargin_eq]
  unfold ownPathTlv Tlv.wireSize MAX_DATA_LEN
  simp only [flatMap_clockId_length, List.length_append, List.length_singleton]
  omega

/-- the stored path is the one received from the parent: an Announce of the parent on the Slave port that is not
looping stores the identities of its (first) PATH_TRACE TLV (the first 128 of them: the capacity of the list) -/
theorem path_trace_stored (p : Port) (s s1 : InstState) (m : Msg) (a : Ann) (t : Tlv)
    (hs : p.st.isSlave = true) (hp : a.hdr.src = s.parent.parentPort) (hpt : pathTlvOf s m = some t)
    (h : p.announceUpdate s m a = .ok (s1, false)) : s1.pathTrace = (pathOf t.value).take PATH_TRACE_CAP := by
  cases announceUpdate_cases h with
  | other hn => exact absurd ⟨hs, hp⟩ hn
  | applied => rw [hpt]; rfl

/-- … and without a PATH_TRACE TLV in the parent's Announce (or with the option off) the stored path is kept -/
theorem path_trace_kept (p : Port) (s s1 : InstState) (m : Msg) (a : Ann) (loop : Bool)
    (hpt : pathTlvOf s m = none) (h : p.announceUpdate s m a = .ok (s1, loop)) : s1.pathTrace = s.pathTrace := by
  cases announceUpdate_cases h with
  | other | looping => rfl
  | applied => rw [hpt]; rfl

/-- **An Announce from the parent whose path already contains the instance's identity is discarded**: it changes
no data set, no foreign master record, no port state, arms no timer and is not forwarded. -/
theorem loop_discarded (p p' : Port) (s s' : InstState) (m : Msg) (ab : AnnounceBody) (outs : List Out)
    (hs : p.st.isSlave = true) (hp : m.header.src = s.parent.parentPort)
    (hloop : loopsBack s (pathTlvOf s m) = true)
    (h : p.handleAnnounce s m ab = .ok (p', s', outs)) : p' = p ∧ s' = s ∧ outs = [] := by
  obtain ⟨loop, hu, hcase⟩ := handleAnnounce_ok h
  cases announceUpdate_cases hu with
  | other hn => exact absurd ⟨hs, hp⟩ hn
  | looping =>
    rcases hcase with ⟨_, hp', ho⟩ | ⟨hf, _⟩
    · exact ⟨hp', rfl, ho⟩
    · cases hf
  | applied _ _ hl => exact nomatch hloop.symm.trans hl

/-- what "the path contains the own identity" means: one of the 8-octet groups of the first PATH_TRACE TLV -/
theorem loopsBack_iff (s : InstState) (m : Msg) :
    loopsBack s (pathTlvOf s m) = true ↔
      s.pathEnable = true ∧ ∃ t, (tlvs m.suffix).find? (fun t => t.ty = TLV_PATH_TRACE) = some t ∧
        s.dflt.clockIdentity ∈ pathOf t.value := by
  unfold loopsBack pathTlvOf
  by_cases he : s.pathEnable = true
  · rw [if_pos he]
    cases hf : (tlvs m.suffix).find? (fun t => t.ty = TLV_PATH_TRACE) with
    | none => simp
    | some t => simp [he]
  · rw [if_neg he]; simp [he]

/-- **Unmodified**: read back with the library's own TLV iterator, the suffix of the emitted Announce is the own path
TLV followed by the very TLVs (type and value) that were queued by the parent, in queue order. -/
theorem announce_suffix_parses (p p' : Port) (s : InstState) (q q' : List FwdTlv) (loose : Bool) (outs : List Out)
    (hm : p.st = .master) (hq : ∀ t ∈ q, t.tlv.WF) (h : p.sendAnnounce s q loose = .ok (p', outs, q')) :
    ∃ (m : Msg) (taken : List FwdTlv),
      outs = [.reset .announce (.exact (intervalNs p.cfg.announceLog)), .sendGeneral (encode m) false] ∧ q = taken ++ q' ∧
      tlvs m.suffix = pathPart s p ++ (taken.filter (fwdKeep s.parent.parentPort s.pathEnable)).map (fun t => t.tlv) := by
  obtain ⟨hq', ho⟩ := sendAnnounce_master_ok hm h
  obtain ⟨taken, t⟩ := announceMsg_suffix p s q loose
  refine ⟨_, taken, ho, hq' ▸ t.split, ?_⟩
  unfold tlvs
  rw [t.suffix]
  exact (tlv_roundtrip _ (suffixTlvs_WF s p hq t.split) _ (Nat.le_refl _)).2

/-- the identities of a serialized path read back as they were written -/
theorem pathOf_roundtrip (l : List Nat) (h : ∀ c ∈ l, c < 18446744073709551616) : pathOf (l.flatMap clockIdBytes) = l := by
  suffices ∀ f, (l.flatMap clockIdBytes).length ≤ f → chunks8 f (l.flatMap clockIdBytes) = l from
    this _ (Nat.le_refl _)
  induction l with
  | nil => intro f _; cases f <;> rfl
  | cons c cs ih =>
    intro f hf
    rw [List.flatMap_cons] at hf ⊢
    have hlen := clockIdBytes_length c
    rw [List.length_append] at hf
    cases f with
    | zero => omega
    | succ f =>
      rw [chunks8, if_pos (by rw [List.length_append]; omega), List.drop_left' hlen,
        ih (fun x hx => h x (List.mem_cons_of_mem _ hx)) f (by omega)]
      exact congrArg (· :: cs) (beVal_beBytes_of_lt _ (h c List.mem_cons_self))

/-- **Known finding, stated on the model**: the full-strength claim "a parent TLV that has room is appended to the next
Announce" is false — a TLV that would be dropped anyway but does not fit blocks the queue (witness: room 10, a
20-octet TLV of another sender, then a 4-octet TLV of the parent: nothing is forwarded, nothing is consumed). -/
theorem head_of_line_blocking :
    ∃ (parent other : PortId) (q : List FwdTlv) (margin : Nat),
      parent ≠ other ∧ q = [⟨⟨0x4000, List.replicate 16 0⟩, other⟩, ⟨⟨0x4000, []⟩, parent⟩] ∧
      (4 : Nat) < margin ∧ fwdLoop parent false false (q.length + 1) q margin [] = ([], q) :=
  ⟨⟨1, 1⟩, ⟨2, 1⟩, _, 10, by decide, rfl, by decide, by decide⟩

/-! ### the daemon's queue between the ports (`statime-linux/src/tlvforwarder.rs`, `main.rs`)

The port-level theorems above take the host's queue as a list `q` and a flag `loose`. The theorems below are
about what the daemon really hands to `handle_announce_timer`: one `tokio::sync::broadcast` channel, one
`TlvForwarder` per port task (`Model/Forwarder.lean`; capacity, size test, `resubscribe` and the clearing rule of
each port task are translated from the source on every run). -/

open Statime.Fwd in
/-- the translated constants are the model's: capacity 128, `size <= max_size`, `duplicate` re-subscribes at the tail -/
theorem forwarder_constants :
    Generated.forwarderCapacity = some CAP ∧ Generated.forwarderFitsIsLe = some true ∧
    Generated.forwarderDuplicateResubscribes = true := by decide

/-- `TlvForwarder::next_if_smaller` tests `size <= max_size` (`forwarder_constants`): the daemon's forwarder is the
provider `loose = true` of the port-level theorems -/
theorem forwarder_is_loose (size margin : Nat) : fwdFits true size margin = decide (size ≤ margin) :=
  fwdFits_true size margin

open Statime.Fwd in
/-- **`next_if_smaller(max_size)` never hands out a TLV larger than `max_size`**, in whatever state the forwarder is
(lagging, or not even well-formed) -/
theorem forwarder_hands_out_what_fits (log : List Item) (r : Rx) (m : Nat) (v : Item)
    (h : (nextIfSmaller log r m).1 = some v) : v.size ≤ m := next_fits log r m v h

open Statime.Fwd in
/-- **`forward(tlv)` reaches every port task**: `r` is any well-formed forwarder on the shared channel, and the TLV
comes after everything that forwarder still holds -/
theorem forwarder_forward_appends (log : List Item) (r : Rx) (v : Item) (h : Wf log r) :
    pending (log ++ [v]) r = pending log r ++ [v] := pending_append log r [v] h

open Statime.Fwd in
/-- **the forwarder is a FIFO queue with "take the head if it fits"** — exactly the `q` / `loose = true` of the
port-level theorems — for as long as the port task is no more than 128 values, the channel's capacity, behind (`NoLag`) -/
theorem forwarder_is_a_queue (log : List Item) (r : Rx) (m : Nat) (h : Wf log r) (hn : NoLag log r) :
    (pending log r = [] → (nextIfSmaller log r m).1 = none ∧ pending log (nextIfSmaller log r m).2 = []) ∧
    (∀ v rest, pending log r = v :: rest →
      (v.size ≤ m → (nextIfSmaller log r m).1 = some v ∧ pending log (nextIfSmaller log r m).2 = rest) ∧
      (¬ v.size ≤ m → (nextIfSmaller log r m).1 = none ∧ pending log (nextIfSmaller log r m).2 = v :: rest)) := by
  have e := next_refines_queue h hn m
  refine ⟨fun h0 => ?_, fun v rest hv => ?_⟩
  · rw [h0] at e
    exact Prod.mk.inj e
  · rw [hv, popFit] at e
    exact ⟨fun hs => Prod.mk.inj (e.trans (if_pos hs)), fun hs => Prod.mk.inj (e.trans (if_neg hs))⟩

open Statime.Fwd in
/-- **At most once per port, in arrival order, unmodified — for every history** of `duplicate`, `forward`,
`next_if_smaller`, `empty` and BMCA hand-backs under any clearing rule, lag and overflow included: what forwarder
`i` has handed out is, position by position, a subsequence of what was sent on the channel. -/
theorem forwarder_history (ops : List Op) (i : Nat) (r : Rx)
    (hr : (run {} ops).1.rxs[i]? = some r) :
    (delivered i ops (run {} ops).2).Sublist ((run {} ops).1.log.take r.readPos) := by
  have := run_inv ops {} i [] (inv_init i)
  unfold Fwd.Inv at this
  rw [hr, List.nil_append] at this
  exact this.2

open Statime.Fwd in
/-- **The two halves joined.** A master port's announce timer runs the forwarding loop of `send_announce` against
its task's `TlvForwarder`. Whatever TLVs the queue's items stand for (`content`, of the sizes the queue sees), the
bytes the port-level model appends when handed the pending list as `q` (`fwdLoop`, the subject of `announce_suffix`,
`announce_fits`, `announce_decodes` above) are exactly the contents of the items the loop takes from the forwarder
and keeps, in order; and what the model leaves in `q` is what the forwarder still holds. (No lag: the port task is
no more than 128 values behind.) -/
theorem announce_forwards_from_the_daemons_queue (log : List Item) (r : Rx) (content : Item → FwdTlv)
    (hsize : ∀ x, (content x).tlv.wireSize = x.size) (parent : PortId) (pt : Bool) (margin : Nat)
    (hw : Wf log r) (hn : NoLag log r) :
    let q := (pending log r).map content
    let run := drain log (fun x => keepFwd parent pt (content x)) (q.length + 1) r margin []
    fwdLoop parent pt true (q.length + 1) q margin [] =
      ((run.1.map content).flatMap (·.tlv.bytes), (pending log run.2.1).map content) := by
  -- the two keep tests differ in the orientation of the equation on the sender only
  rw [show keepFwd parent pt = fwdKeep parent pt from funext (keepFwd_eq_fwdKeep parent pt)]
  intro q run
  obtain ⟨h1, h2, _⟩ := drain_eq_drainList log (fun x => fwdKeep parent pt (content x)) (q.length + 1) r margin []
    hw hn (by rw [List.length_map]; exact Nat.lt_succ_self _)
  rw [fwdLoop_eq_drainList parent pt true _ q margin [] (Nat.lt_succ_self _),
    drainList_map content hsize fun _ => rfl]
  show (_, _) = ((run.1.map content).flatMap _, (pending log run.2.1).map content)
  rw [h1, h2, List.nil_append, List.nil_append, Prod.map_fst, Prod.map_snd, List.filter_map, List.flatMap_map,
    List.flatMap_map, List.flatMap_map]
  rfl

/-- the keep test of the joined statement is the one of `announce_suffix` -/
theorem keepFwd_is_fwdKeep (parent : PortId) (pt : Bool) (t : FwdTlv) : keepFwd parent pt t = fwdKeep parent pt t :=
  keepFwd_eq_fwdKeep parent pt t

open Statime.Fwd in
/-- a clearing rule that leaves a master port's forwarder alone when the BMCA hands the port back -/
theorem quiet_rule_keeps_master_queue (pol : ClearPolicy) (h : pol.clears true = false) (log : List Item) (r : Rx) :
    afterBmca pol true log r = r := by
  unfold afterBmca
  rw [h]; rfl

open Statime.Fwd in
/-- **No TLV queued for a master port is thrown away by a BMCA run**: the clearing rules of both port tasks, as
they read in today's `main.rs`, leave the forwarder of a port in the Master state untouched. (A rule that empties
the forwarder of master ports drops every TLV that arrived since the port's last Announce — the property's "appended
to that port's next Announce that has room for it" fails for them.) -/
theorem port_tasks_keep_master_queue :
    (∃ p, Generated.udpPortTaskClear = some p ∧ p.clears true = false) ∧
    (∃ p, Generated.ethernetPortTaskClear = some p ∧ p.clears true = false) := by
  decide

open Statime.Fwd in
/-- a run of the model: forwarder 1 peeks a value that does not fit its request (20 > 10), keeps it, and hands it
out first when it is asked with more room -/
example :
    let s := (run {} [.dup 0, .forward ⟨20, 1⟩, .forward ⟨8, 2⟩, .next 1 10, .next 1 30, .next 1 30, .next 1 30]).2
    s = [none, none, none, none, some ⟨20, 1⟩, some ⟨8, 2⟩, none] := by decide

end Statime.C15
