import StatimeModel.Lemmas.TimeBasic
/-
C16 — Time arithmetic and wire time conversions are exact.

All statements are about the bit-pattern model in `Model/Time.lean`; the tie to the Rust operators is the `TIME`
correspondence stream (every operator, boundary lattice + random operands, bit-exact, including which operand pairs
overflow).
-/
namespace Statime.C16
open Statime

/-- exclusive upper bound of the PTP time range: 2^48 s, in 2^-32 ns units -/
def TMAX : Nat := 1208925819614629174706176000000000
/-- ±2^63 ns, in 2^-32 ns units -/
def DMAX : Nat := 39614081257132168796771975168

example : TMAX = 2 ^ 48 * SEC ∧ DMAX = 2 ^ 63 * F32 := by decide

theorem TMAX_lt_I127 : TMAX < I127 := by decide

/-- the wire format keeps whole nanoseconds: converting there and back clears the 32 fraction bits and nothing else -/
theorem wire_truncates (t : Nat) (h : t < TMAX) :
    ∃ w, timeToWire t = some w ∧ w.secs < 2 ^ 48 ∧ w.nanos < NS ∧ wireToTime w = some (t / F32 * F32) := by
  -- one second is `F32 * NS` units
  have e : (t / SEC * NS + t % SEC / F32) * F32 = t / F32 * F32 := by
    show (t / (F32 * NS) * NS + t % (F32 * NS) / F32) * F32 = _
    rw [← Nat.div_div_eq_div_mul, Nat.mod_mul_right_div_self, Nat.div_add_mod']
  have hs : t / SEC < 2 ^ 48 := Nat.div_lt_of_lt_mul (h : t < SEC * 2 ^ 48)
  have hn : t % SEC / F32 < NS := Nat.div_lt_of_lt_mul (Nat.mod_lt t (by decide) : t % SEC < F32 * NS)
  have hu : t / F32 * F32 < U128 := Nat.lt_of_le_of_lt (Nat.div_mul_le_self t F32)
    (Nat.lt_trans h (Nat.lt_trans TMAX_lt_I127 I127_lt_U128))
  exact ⟨⟨t / SEC, t % SEC / F32⟩, timeToWire_eq_some_iff.2 ⟨Nat.lt_trans hs (by decide), rfl⟩, hs, hn,
    wireToTime_eq_some_iff.2 ⟨lt_of_eq_of_lt e hu, e.symm⟩⟩

/-- **Wire round trip.** For every time in the PTP range, `Time → WireTimestamp → Time` plus the
sub-nanosecond correction (`subnano`, 2^-16 ns units) reproduces the time to
strictly less than 2^-16 ns (the 16 low fraction bits are truncated, never
rounded up). -/
theorem wire_roundtrip (t : Nat) (h : t < TMAX) :
    ∃ w b, timeToWire t = some w ∧ w.secs < 2 ^ 48 ∧ w.nanos < NS ∧
      wireToTime w = some b ∧
      (b : Int) + tivToDur (timeSubnano t) ≤ t ∧
      (t : Int) < (b : Int) + tivToDur (timeSubnano t) + F16 := by
  obtain ⟨w, hw, h1, h2, hb⟩ := wire_truncates t h
  refine ⟨w, _, hw, h1, h2, hb, ?_⟩
  unfold timeSubnano tivToDur F32 F16
  omega

/-- **Time + Duration never overflows inside the PTP range** and is exact. -/
theorem add_in_range (t : Nat) (d : Int) (ht : t < TMAX)
    (hd : -(DMAX : Int) ≤ d ∧ d ≤ DMAX) (hpos : 0 ≤ (t : Int) + d) :
    timeAddDur t d = some ((t : Int) + d).toNat := by
  unfold TMAX at ht
  unfold DMAX at hd
  exact timeAddDur_of_inU128 (by rw [inU128_iff]; omega)

/-- **Add then subtract cancels**, wherever the addition is defined and does not saturate at zero
(any time — a `U96F32` bit pattern, hence `< 2^128` —, any duration except the
single non-negatable value `MIN`). -/
theorem add_sub_cancel (t t' : Nat) (d : Int) (ht : t < U128) (hd : -(I127 : Int) < d ∧ d < I127)
    (hpos : 0 ≤ (t : Int) + d) (h : timeAddDur t d = some t') : timeSubDur t' d = some t := by
  have hr := timeAddDur_val h hpos
  rw [timeSubDur_eq_add_neg (inI128_neg hd)]
  exact timeAddDur_eq_some (by rw [hr, Int.add_neg_cancel_right]) ht

theorem sub_add_cancel (t t' : Nat) (d : Int) (ht : t < U128) (hd : -(I127 : Int) < d ∧ d < I127)
    (hpos : 0 ≤ (t : Int) - d) (h : timeSubDur t d = some t') : timeAddDur t' d = some t := by
  rw [timeSubDur_eq_add_neg (inI128_neg hd)] at h
  have hr := timeAddDur_val h hpos
  exact timeAddDur_eq_some (by rw [hr, Int.neg_add_cancel_right]) ht

/-- **Difference of two times is exact** for all times below 2^127 units
(2^95 ns — far beyond the PTP range), and adding it back restores the minuend. -/
theorem time_sub_exact (a b : Nat) (ha : a < I127) (hb : b < I127) :
    timeSub a b = some ((a : Int) - b) ∧ timeAddDur b ((a : Int) - b) = some a :=
  ⟨timeSub_eq_some_iff.2 ⟨ha, hb, rfl⟩, timeAddDur_sub (Nat.lt_trans ha I127_lt_U128)⟩

theorem time_sub_in_ptp_range (a b : Nat) (ha : a < TMAX) (hb : b < TMAX) :
    timeSub a b = some ((a : Int) - b) :=
  (time_sub_exact a b (Nat.lt_trans ha TMAX_lt_I127) (Nat.lt_trans hb TMAX_lt_I127)).1

/-- **Every 64-bit time interval converts to a duration and back unchanged.** -/
theorem interval_roundtrip (x : Int) (h : inI64 x = true) : durToTiv (tivToDur x) = x := by
  unfold durToTiv tivToDur
  rw [Int.mul_ediv_cancel x (by decide)]
  exact clampI64_of_inRange x h

/-- the widening direction is exact (multiplication by 2^16, no rounding) and never overflows -/
theorem interval_to_dur_in_range (x : Int) (h : inI64 x = true) : inI128 (tivToDur x) = true := by
  rw [inI64_iff] at h
  rw [inI128_iff]
  unfold tivToDur F16
  omega

/-- **The narrowing direction rounds toward minus infinity to 2^-16 ns** whenever the
result is representable (|d| < 2^47 ns). -/
theorem dur_to_interval_floor (d : Int) (h : inI64 (d / F16) = true) :
    tivToDur (durToTiv d) ≤ d ∧ d < tivToDur (durToTiv d) + F16 ∧
      durToTivChecked d = some (durToTiv d) := by
  have hw : durToTiv d = d / F16 := clampI64_of_inRange _ h
  have hf := ediv_bounds d (n := F16) (by decide)
  rw [hw]
  unfold durToTivChecked
  dsimp only
  rw [if_pos h]
  exact ⟨hf.1, hf.2, rfl⟩

/-- `durToTivChecked` is `none` exactly outside that range: the precise no-wrap domain is |d| < 2^79 units = 2^47 ns -/
theorem dur_to_interval_domain (d : Int) :
    durToTivChecked d = none ↔
      (d < -604462909807314587353088 ∨ 604462909807314587353088 ≤ d) := by
  unfold durToTivChecked
  dsimp only
  -- the quotient is in range exactly when the dividend is in the range times 2^16
  rw [ite_eq_right_iff, inI64_iff, Int.le_ediv_iff_mul_le (by decide), Int.ediv_lt_iff_lt_mul (by decide)]
  simp only [reduceCtorEq, imp_false, F16]
  omega

/-- **No silent wrap**: outside the representable range the conversion saturates
(largest / smallest `TimeInterval`), it never produces an unrelated value. -/
theorem dur_to_interval_saturates (d : Int) :
    (604462909807314587353088 ≤ d → durToTiv d = 9223372036854775807) ∧
    (d < -604462909807314587353088 → durToTiv d = -9223372036854775808) := by
  unfold durToTiv
  rw [clampI64_def]
  constructor
  · intro h
    have hq : 9223372036854775808 ≤ d / (F16 : Int) := (Int.le_ediv_iff_mul_le (by decide)).2 h
    rw [if_neg (Int.not_lt.2 (Int.le_trans (by decide) hq)), if_pos hq]
  · intro h
    rw [if_pos ((Int.ediv_lt_iff_lt_mul (by decide)).2 h)]

/-- the conversion is monotone (a consequence a wrapping cast does not have) -/
theorem dur_to_interval_mono (a b : Int) (h : a ≤ b) : durToTiv a ≤ durToTiv b :=
  clampI64_mono (Int.ediv_le_ediv (by decide) h)

/-- **log intervals are exactly 2^n s** for −41 ≤ n ≤ 65: 2^n·10^9·2^32 = 5^9·2^(n+41). -/
theorem log_interval_exact :
    ∀ k : Fin 107, durFromLogInterval ((k.val : Int) - 41) = some ((5 ^ 9 * 2 ^ k.val : Nat) : Int) := by
  decide +kernel

/-- below the resolution the result is the nearest representable value (|err| ≤ ½ ulp):
with v the result for n = −42 − k, |v·2^(k+10) − 10^9| ≤ 2^(k+9). -/
theorem log_interval_nearest :
    ∀ k : Fin 87, (match durFromLogInterval (-(k.val : Int) - 42) with
      | some v => decide (0 ≤ v ∧ 2 * (v * 2 ^ (k.val + 10)) ≤ 2 * (NS : Int) + 2 ^ (k.val + 10) ∧
          2 * (NS : Int) ≤ 2 * (v * 2 ^ (k.val + 10)) + 2 ^ (k.val + 10))
      | none => false) = true := by
  decide +kernel

/-- above 2^65 s the value does not fit `I96F32`; the model (and the debug build) refuse -/
theorem log_interval_overflow : ∀ k : Fin 62, durFromLogInterval ((k.val : Int) + 66) = none := by
  decide +kernel

/-- **Time never goes negative**: subtracting more than there is stops at zero (since the `fix:` commit; before it
the unsigned subtraction overflowed) -/
theorem add_saturates_at_zero (t : Nat) (d : Int) (h : (t : Int) + d < 0) : timeAddDur t d = some 0 :=
  timeAddDur_of_neg t d h

example : (1700000000 * SEC + 123456789 * F32 + 0xabcd1234 : Nat) < TMAX := by decide +kernel
example : timeToWire (1700000000 * SEC + 123456789 * F32 + 0xabcd1234) =
    some ⟨1700000000, 123456789⟩ := by decide +kernel
example : timeSubnano (1700000000 * SEC + 123456789 * F32 + 0xabcd1234) = 0xabcd := by decide +kernel
example : timeAddDur (5 * SEC) (-(3 * SEC : Nat) - 7) = some (2 * SEC - 7) := by decide +kernel
example : durToTiv (-1) = -1 ∧ tivToDur (-1) = -65536 := by decide +kernel

end Statime.C16
