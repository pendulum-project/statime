import StatimeModel.Props.C11
/-
C17 — Shared instance state is never locked re-entrantly or seen half-updated.

`Inst.lockTrace` (Model/Instance.lean) lists, for every host call, the acquisitions of the instance-state lock
the code performs, in order; the correspondence run compares it with the trace a recording lock sees in the real
library, where a nested acquisition would show up as `rw..` instead of `r.w.`. The receive paths are the only ones
whose trace depends on the frame (`recvLocks`).
-/
namespace Statime.C17
open Statime

def writes (t : List LockEv) : Nat := (t.filter (fun e => e = .w)).length

theorem writes_r (t : List LockEv) : writes (.r :: t) = writes t := rfl

theorem writes_replicate_r (n : Nat) : writes (List.replicate n .r) = 0 := by
  induction n with
  | zero => rfl
  | succ n ih => rw [List.replicate_succ, writes_r, ih]

theorem writes_ite {c : Prop} [Decidable c] {a b : List LockEv} {n : Nat} (ha : writes a ≤ n) (hb : writes b ≤ n) :
    writes (if c then a else b) ≤ n := by
  split <;> assumption

theorem writes_port {i : Inst} {k : Nat} {f : Port → List LockEv} {n : Nat} (h : ∀ p, writes (f p) ≤ n) :
    writes (match portAt i.ports k with | some p => f p | none => []) ≤ n := by
  cases portAt i.ports k with
  | none => exact Nat.zero_le n
  | some p => exact h p

theorem recvLocks_writes (p : Port) (s : InstState) (data : List UInt8) (ev : Bool) : writes (recvLocks p s data ev) ≤ 1 := by
  unfold recvLocks
  refine writes_ite (Nat.zero_le 1) ?_
  cases decode data with
  | error _ => exact Nat.zero_le 1
  | ok m =>
    dsimp only
    rw [writes_r]
    refine writes_ite ?_ (Nat.zero_le 1)
    cases m.body with
    | announce _ =>
      refine writes_ite ?_ (Nat.zero_le 1)
      rw [writes_r]
      exact writes_ite (Nat.le_refl 1) (Nat.zero_le 1)
    | pdelayReq _ => exact writes_ite (Nat.zero_le 1) (Nat.zero_le 1)
    | _ => exact Nat.zero_le 1

/-- **No host call takes the lock for writing more than once**: everything a call changes in the shared data
sets it changes inside a single critical section (the trace is a flat list: no acquisition inside another). -/
theorem writes_at_most_once (i : Inst) (op : Op) : writes (i.lockTrace op) ≤ 1 := by
  cases op with
  | gen k data => exact writes_port fun p => recvLocks_writes p _ _ _
  | evt k data ts => exact writes_port fun p => recvLocks_writes p _ _ _
  | tmrAnnounce k loose q =>
    refine writes_port fun p => writes_ite ?_ (Nat.zero_le 1)
    rw [writes_r, writes_r, writes_replicate_r]
    exact Nat.zero_le 1
  | tmr k t =>
    cases t with
    | announce | sync | receipt => exact writes_port fun p => writes_ite (by decide) (by decide)
    | delay => exact writes_port fun p => writes_ite (by decide) (writes_ite (by decide) (by decide))
    | filter => exact Nat.zero_le 1
  | txts k ctx ts =>
    cases ctx with
    | sync _ => exact writes_port fun p => writes_ite (by decide) (by decide)
    | pdelayResp _ _ => exact writes_port fun _ => by decide
    | _ => exact Nat.zero_le 1
  | bmca _ | setSlaveOnly _ | setQuality _ | addPort _ => exact Nat.le_refl 1

theorem mem_w_of_writes {t : List LockEv} (h : LockEv.w ∉ t) : writes t = 0 := by
  unfold writes
  rw [List.length_eq_zero_iff, List.filter_eq_nil_iff]
  intro e he hw
  simp only [decide_eq_true_eq] at hw
  exact h (hw ▸ he)

theorem recvLocks_parent_announce {p : Port} {s : InstState} {data : List UInt8} {ev : Bool} {m : Msg} {ab : AnnounceBody}
    (hpf : parseAndFilter s data = some m) (hb : m.body = .announce ab) (hs : p.st.isSlave = true)
    (hsrc : m.header.src = s.parent.parentPort) : recvLocks p s data ev = [.r, .r, .w] := by
  obtain ⟨hc, hd, hsdo, hdom⟩ := parseAndFilter_spec s data m hpf
  unfold recvLocks
  rw [hc, hd, Bool.not_true, if_neg Bool.false_ne_true]
  dsimp only
  rw [if_pos ⟨hsdo, hdom⟩, hb]
  dsimp only
  rw [if_pos hs, if_pos hsrc]

/-- only `handle_announce` can change the data sets, and only for an Announce from the parent on a Slave port (C11),
which takes the lock for writing -/
theorem recv_state {p p' : Port} {s s' : InstState} {data : List UInt8} {o : List Out} {ev : Bool} {ts : Option Nat}
    {x : R (Port × InstState × List Out)} (hc : Received p s (parseAndFilter s data) ts x) (hx : x = .ok (p', s', o))
    (hw : LockEv.w ∉ recvLocks p s data ev) : s' = s := by
  generalize hpf : parseAndFilter s data = pm at hc
  cases hc with
  | dropped | ignored => cases hx; rfl
  | handler =>
    obtain ⟨⟨a, b⟩, _, he⟩ := map_ok _ _ _ hx
    cases he
    rfl
  | @announce m _ ab hb =>
    obtain ⟨loop, hu, _⟩ := handleAnnounce_ok hx
    by_cases hn : p.st.isSlave = true ∧ m.header.src = s.parent.parentPort
    · rw [recvLocks_parent_announce hpf hb hn.1 hn.2] at hw
      exact absurd (.tail _ (.tail _ (.head _))) hw
    · exact (C11.other_announce_keeps_datasets p s s' m _ loop hn hu).1

/-- **A call that does not take the lock for writing changes nothing in the shared state**: every change to the
parent, current, time-properties, path-trace or default data set happens under the (single) write acquisition. -/
theorem no_write_no_change (i i' : Inst) (op : Op) (obs : Obs) (q : Nat) (h : i.step op = .ok (i', obs, q))
    (hw : LockEv.w ∉ i.lockTrace op) : i'.st = i.st := by
  cases step_cases h with
  | idle => rfl
  | bmca | setSlaveOnly | setQuality | addPort => exact absurd (.head _) hw
  | port hk hc =>
    cases hc with
    | gen hr =>
      simp only [Inst.lockTrace, hk] at hw
      exact recv_state (handleGeneralReceive_cases _ _ _) hr hw
    | evt hr =>
      simp only [Inst.lockTrace, hk] at hw
      exact recv_state (handleEventReceive_cases _ _ _ _) hr hw
    | _ => rfl

/-- one critical section of some thread: what it does to the shared state while it holds the lock -/
abbrev Section := InstState → InstState

/-- the shared state after the sections that have run so far (the lock makes each of them atomic) -/
def after (s0 : InstState) (done : List Section) : InstState := done.foldl (fun s f => f s) s0

/-- **Every snapshot shows the values of whole updates only.** With sections atomic (the lock: built into `after`,
not proved), an observer that takes the lock between two of them sees the state left by a prefix of complete sections;
and since each host call does all of its writing in one section (`writes_at_most_once`, `no_write_no_change`), never a
data set with some fields of one update and some of another. -/
theorem snapshot_is_prefix (s0 : InstState) (schedule : List Section) (n : Nat) :
    ∃ done rest, schedule = done ++ rest ∧ done.length = min n schedule.length ∧
      after s0 (schedule.take n) = after s0 done :=
  ⟨schedule.take n, schedule.drop n, (List.take_append_drop n schedule).symm, List.length_take, rfl⟩

/-- the update one section applies is applied entirely or not at all in what the next observer sees -/
theorem section_atomic (s0 : InstState) (done : List Section) (f : Section) :
    after s0 (done ++ [f]) = f (after s0 done) := by
  unfold after; rw [List.foldl_append]; rfl

end Statime.C17
