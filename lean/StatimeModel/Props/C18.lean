import StatimeModel.Model.Overlay
import StatimeModel.Lemmas.TimeBasic
/-
C18 — The overlay clock behaves like a clock.

Statements are about the bit-pattern model in Model/Overlay.lean (exact integer
arithmetic on `U96F32` / `I96F32` values, units of 2^-32 ns); the tie to `statime/src/overlay_clock.rs` is the OVL
correspondence stream (bit-exact readings).
-/
namespace Statime.C18
open Statime

/-- at the instant of the last adjustment nothing has elapsed, so the frequency correction is zero whatever the
frequency -/
theorem corr_at_anchor (o : Overlay) (h : o.lastSync < I127) : o.corr o.lastSync = some 0 := by
  have h0 : inI128 0 = true := by decide
  unfold Overlay.corr
  rw [timeSub_eq_some_iff.2 ⟨h, h, rfl⟩, Option.bind_some, Int.sub_self,
    durMulFix_eq_some_iff.2 ⟨by rw [Int.zero_mul, Int.zero_ediv]; exact h0, rfl⟩, Option.bind_some,
    Int.zero_mul, Int.zero_ediv]
  exact (durDivFix_mul_F32 (by decide)).2 ⟨by rw [Int.zero_tdiv]; exact h0, (Int.zero_tdiv _).symm⟩

/-- as long as neither sum is negative: time is unsigned, `timeAddDur` stops at zero -/
theorem reading_value {o : Overlay} {u r : Nat} (h : o.timeFromUnderlying u = some r) :
    ∃ c, o.corr u = some c ∧
      (0 ≤ (u : Int) + o.shift → 0 ≤ (u : Int) + o.shift + c → (r : Int) = u + o.shift + c) := by
  unfold Overlay.timeFromUnderlying at h
  obtain ⟨c, hc, h2⟩ := Option.bind_eq_some_iff.1 h
  obtain ⟨t1, ht1, ht2⟩ := Option.bind_eq_some_iff.1 h2
  refine ⟨c, hc, fun p1 p2 => ?_⟩
  have v1 := timeAddDur_val ht1 p1
  rw [← v1] at p2 ⊢
  exact timeAddDur_val ht2 p2

/-- every adjustment re-anchors this way, so that the reading moves by what was asked for (nothing, or the step) and by
nothing else -/
theorem reading_at_anchor (now loc : Nat) (sh p : Int) (hs : timeSub loc now = some sh) :
    ({ lastSync := now, shift := sh, ppmBits := p } : Overlay).timeFromUnderlying now = some loc := by
  obtain ⟨hloc, hnow, rfl⟩ := timeSub_eq_some_iff.1 hs
  have hc := corr_at_anchor { lastSync := now, shift := (loc : Int) - now, ppmBits := p } hnow
  have hU : loc < U128 := Nat.lt_trans hloc I127_lt_U128
  unfold Overlay.timeFromUnderlying
  rw [hc, Option.bind_some, timeAddDur_sub hU, Option.bind_some]
  exact timeAddDur_eq_some (Int.add_zero _).symm hU

/-- **Continuous across every frequency change**: `set_frequency` returns the reading at that instant, and the
re-anchored clock reads exactly the same at that instant — whatever the old and the new frequency. -/
theorem frequency_change_continuous (o o' : Overlay) (now : Nat) (p : Int) (r : Nat)
    (h : o.setFrequency now p = some (o', r)) :
    o.timeFromUnderlying now = some r ∧ o'.timeFromUnderlying now = some r ∧ o'.ppmBits = p := by
  unfold Overlay.setFrequency at h
  obtain ⟨loc, hl, h2⟩ := Option.bind_eq_some_iff.1 h
  obtain ⟨sh, hs, h3⟩ := Option.map_eq_some_iff.1 h2
  obtain ⟨rfl, rfl⟩ := Prod.mk.inj h3
  exact ⟨hl, reading_at_anchor now loc sh p hs, rfl⟩

/-- **Jumps by exactly the requested amount at every step**: `step_clock` returns the new reading, which is the old
reading plus the offset — exactly, whatever frequency is in force and however long ago the last adjustment was
(as long as the result is not negative: time is unsigned). -/
theorem step_exact (o o' : Overlay) (now : Nat) (off : Int) (r : Nat) (h : o.stepClock now off = some (o', r)) :
    ∃ b, o.timeFromUnderlying now = some b ∧ o'.timeFromUnderlying now = some r ∧ o'.ppmBits = o.ppmBits ∧
      (0 ≤ (b : Int) + off → (r : Int) = b + off) := by
  unfold Overlay.stepClock at h
  obtain ⟨loc, hl, h2⟩ := Option.bind_eq_some_iff.1 h
  obtain ⟨sh0, hs0, h3⟩ := Option.bind_eq_some_iff.1 h2
  obtain ⟨sh, hs, h4⟩ := Option.bind_eq_some_iff.1 h3
  obtain ⟨rr, hrr, h5⟩ := Option.map_eq_some_iff.1 h4
  obtain ⟨rfl, rfl⟩ := Prod.mk.inj h5
  refine ⟨loc, hl, hrr, rfl, fun hpos => ?_⟩
  -- the new anchor is `now`, where the correction is zero, and the new shift is `loc - now + off`
  obtain ⟨_, hnow, rfl⟩ := timeSub_eq_some_iff.1 hs0
  obtain ⟨_, rfl⟩ := durAdd_eq_some_iff.1 hs
  obtain ⟨c, hc, hr⟩ := reading_value hrr
  rw [corr_at_anchor _ hnow] at hc
  cases hc
  dsimp only at hr
  have e : (now : Int) + ((loc : Int) - now + off) = loc + off := by
    rw [← Int.add_assoc, Int.add_comm (now : Int), Int.sub_add_cancel]
  rw [e, Int.add_zero] at hr
  exact hr hpos hpos

/-- **Otherwise advances at (1 + ppm/10^6) times the rate of the underlying clock**: between adjustments the reading
is the underlying time plus a constant plus a frequency correction `c`, and `c` is the exact product
`elapsed · ppm / 10^6` to within (1 + 10^-6) units of 2^-32 ns. -/
theorem rate (o : Overlay) (u r : Nat) (h : o.timeFromUnderlying u = some r) :
    ∃ c : Int, o.corr u = some c ∧
      (0 ≤ (u : Int) + o.shift → 0 ≤ (u : Int) + o.shift + c → (r : Int) = u + o.shift + c) ∧
      (c * (1000000 * (F32 : Int)) - ((u : Int) - o.lastSync) * o.ppmBits < (F32 : Int) * 1000001 ∧
       ((u : Int) - o.lastSync) * o.ppmBits - c * (1000000 * (F32 : Int)) < (F32 : Int) * 1000001) := by
  obtain ⟨c, hc, hr⟩ := reading_value h
  refine ⟨c, hc, hr, ?_⟩
  unfold Overlay.corr at hc
  obtain ⟨el, hel, h3⟩ := Option.bind_eq_some_iff.1 hc
  obtain ⟨c1, hc1, h4⟩ := Option.bind_eq_some_iff.1 h3
  rw [← timeSub_val hel]
  -- with `X = el·P`: `c1 = ⌊X / 2^32⌋` and `c = trunc(c1 / 10^6)`, so both bounds are linear in `X`, `c1`, `c`
  have f1 := ediv_bounds (el * o.ppmBits) (n := F32) (by decide)
  have f2 := tdiv_bounds c1 (n := 1000000) (by decide)
  rw [← (durMulFix_eq_some_iff.1 hc1).2] at f1
  rw [← ((durDivFix_mul_F32 (by decide)).1 h4).2] at f2
  unfold F32 at f1 ⊢
  generalize el * o.ppmBits = X at f1 ⊢
  omega

/-- `set_frequency` called with the frequency the clock already has returns the reading `time_from_underlying` gives at
that instant: the first conjunct of `frequency_change_continuous` at `p := o.ppmBits`. (`OverlayClock::now()`, which
applies the same map to `roclock.now()`, is not an operation of the model; it is the `now` line of `ovlLine` only.) -/
theorem conversion_is_reading (o : Overlay) (under : Nat) (r : Nat) (h : o.timeFromUnderlying under = some r) :
    ∀ o' v, (o.setFrequency under o.ppmBits = some (o', v)) → v = r := by
  intro o' v hs
  have := (frequency_change_continuous o o' under o.ppmBits v hs).1
  rw [h] at this
  exact (Option.some.inj this).symm

end Statime.C18
