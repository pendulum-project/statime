import StatimeModel.Model.Metrics
import StatimeModel.Lemmas.F64L
/-
C19 — Observability data reaches the metrics endpoint unaltered.

About the model of the exporter's formatter (Model/Metrics.lean), which the `metrics` stream compares
byte for byte with the HTTP response of the real exporter process fed through the real serde
representations and the observation socket.

Not modelled in Lean: serde_json (the JSON hop is exercised end to end by the stream: a state goes in
on the daemon side of the socket, the samples that come out of the HTTP response are compared with it),
and the snapshot getters of PtpInstance (C11's view theorems and stream).
-/
namespace Statime.C19
open Statime Statime.Metrics

/-- **HTTP framing.** The response is the header announcing exactly the body's length in octets,
followed by the body. -/
theorem content_length_matches_body (s : MState) :
    response s =
      "HTTP/1.1 200 OK\r\ncontent-type: text/plain\r\ncontent-length: " ++ toString (body s).utf8ByteSize ++ "\r\n\r\n" ++ body s := by
  unfold response header; rfl

/- `rw` with the catch-all equation of `escapeChars` / `unescapeChars` leaves as side goals that none of the patterns
above it matches. -/
theorem escapeChars_cons_plain {c : Char} {cs : List Char} (h1 : c ≠ '\\') (h2 : c ≠ '"') (h3 : c ≠ '\n') :
    escapeChars (c :: cs) = c :: escapeChars cs := by
  rw [escapeChars]
  · exact h1
  · exact h2
  · exact h3

theorem unescapeChars_cons_plain {c : Char} (cs : List Char) (h : c ≠ '\\') :
    unescapeChars (c :: cs) = (unescapeChars cs).map (c :: ·) := by
  rw [unescapeChars]
  · exact fun _ e _ => h e
  · exact fun _ e _ => h e
  · exact fun _ e _ => h e
  · exact h

/-- **Label values survive.** Whatever a label value contains (quotes, backslashes, line feeds, any
Unicode), a scraper that undoes the exposition format's escapes reads back exactly that value. -/
theorem label_escape_roundtrip (cs : List Char) : unescapeChars (escapeChars cs) = some cs := by
  induction cs using escapeChars.induct with
  | case1 => rfl
  | case5 c cs h1 h2 h3 ih =>
    rw [escapeChars_cons_plain h1 h2 h3, unescapeChars_cons_plain _ h1, ih]
    rfl
  | _ cs ih => simp only [escapeChars, unescapeChars, ih, Option.map_some]

/-- an escaped label value contains no raw line feed, so a sample stays on one line -/
theorem escaped_has_no_newline (cs : List Char) : '\n' ∉ escapeChars cs := by
  induction cs using escapeChars.induct with
  | case1 => exact List.not_mem_nil
  | case5 c cs h1 h2 h3 ih =>
    rw [escapeChars_cons_plain h1 h2 h3]
    exact fun h => (List.mem_cons.1 h).elim (fun e => h3 e.symm) ih
  | _ cs ih => simp [escapeChars, ih]

/-- **Boolean fields are exported as 1 and 0** (`format_bool!`), and as nothing else: the sample value tells the
field's value. -/
theorem bool_true_is_one (b : Bool) : (boolVal b = .int 1 ↔ b = true) ∧ (boolVal b = .int 0 ↔ b = false) := by
  cases b <;> simp [boolVal]

def baseLabels (s : MState) : Labels := [("clock_identity", cidStr s.cid)]

/-- the four boolean metrics carry their field, as 1 / 0, under the instance's clock identity -/
theorem boolean_metrics (s : MState) :
    ({ name := "time_traceable", help := "Whether the timescale is traceable to a primary reference",
       samples := [(baseLabels s, boolVal s.timeTraceable)] } : Metric) ∈ metrics s ∧
    ({ name := "frequency_traceable",
       help := "Whether the frequency determining the timescale is traceable to a primary reference",
       samples := [(baseLabels s, boolVal s.freqTraceable)] } : Metric) ∈ metrics s ∧
    ({ name := "ptp_timescale", help := "Whether the timescale of the Grandmaster PTP Instance is PTP",
       samples := [(baseLabels s, boolVal s.ptpTimescale)] } : Metric) ∈ metrics s ∧
    ({ name := "path_trace_enable", help := "1 if path trace options is enabled, 0 otherwise",
       samples := [(baseLabels s, boolVal s.pathTraceEnable)] } : Metric) ∈ metrics s :=
  -- `metrics s` is `first ++ utc ++ rest` (`utc`: the optional UTC offset): a metric of `first` is found by its position
  -- in the whole list, from `uptime` = 0 (`nanosecond_metrics`), one of `rest` by `List.mem_append_right` and its
  -- position in `rest`, from `upcoming_leap` = 0; if the table changes, `rfl` fails
  ⟨List.mem_append_right _ (List.mem_of_getElem? (i := 1) rfl), List.mem_append_right _ (List.mem_of_getElem? (i := 2) rfl),
   List.mem_append_right _ (List.mem_of_getElem? (i := 3) rfl), List.mem_append_right _ (List.mem_of_getElem? (i := 5) rfl)⟩

/-- **Units.** The two metrics of the current data set that are declared in nanoseconds carry the
`I96F32` nanosecond value converted to binary64 (not seconds), and the exposition name ends in the unit. -/
theorem nanosecond_metrics (s : MState) :
    ({ name := "offset_from_master",
       help := "Time difference between a Master PTP Instance as calculated by the Slave instance",
       unit := some "nanoseconds", samples := [(baseLabels s, .float (fixed32ToF64 s.offset))] } : Metric) ∈ metrics s ∧
    ({ name := "mean_delay",
       help := "Packet delay between a Master PTP Instance as calculated by the Slave instance",
       unit := some "nanoseconds", samples := [(baseLabels s, .float (fixed32ToF64 s.meanDelay))] } : Metric) ∈ metrics s :=
  ⟨List.mem_of_getElem? (i := 8) rfl, List.mem_of_getElem? (i := 9) rfl⟩

/-- … and exactly so while the bit pattern stays below 2^53 (positive offsets and delays up to about 2 ms): the exported
binary64 value, read as a multiple of 2^-1074, is the `I96F32` pattern times 2^1042, i.e. `bits · 2^-32` ns -/
theorem nanosecond_value_exact (x : Int) (hp : 0 < x) (hs : x < 9007199254740992) :
    f64Scaled (fixed32ToF64 x) = x.natAbs * 2 ^ 1042 := by
  obtain ⟨n, rfl⟩ := Int.eq_ofNat_of_zero_le (Int.le_of_lt hp)
  unfold fixed32ToF64 natFixed32ToF64
  rw [if_neg (Int.not_lt.2 (Int.le_of_lt hp)), Int.natAbs_natCast]
  exact natFixedToF64_exact 32 n (Int.natCast_pos.1 hp) (Int.ofNat_lt.1 hs) (by decide)

theorem unit_is_name_suffix (m : Metric) (u : String) (h : m.unit = some u) :
    fullName m = "statime_" ++ m.name ++ "_" ++ u := by
  unfold fullName; rw [h]

/-- every port appears once in `port_state`, in order, with its state number -/
theorem port_states (s : MState) :
    ({ name := "port_state", help := "The current state of the port",
       samples := s.ports.map fun p => (baseLabels s ++ [("port", toString p.number)], nat p.state) } : Metric) ∈ metrics s :=
  List.mem_append_right _ (List.mem_of_getElem? (i := 7) rfl)

/-- the path trace list has one sample per entry, numbered from the grandmaster, and the instance itself last -/
theorem path_trace_samples (s : MState) :
    ({ name := "path_trace_list", help := "list of clocks from grandmaster to local clock",
       samples := (s.path.zipIdx.map fun (c, i) => (baseLabels s ++ [("node", cidStr c)], nat i))
                 ++ [(baseLabels s ++ [("node", "self")], nat s.path.length)] } : Metric) ∈ metrics s :=
  List.mem_append_right _ (List.mem_of_getElem? (i := 6) rfl)

theorem body_layout (s : MState) :
    body s = String.join ((metrics s).map renderMetric) ++ "# EOF\n" ∧
    ∀ m, renderMetric m =
      "# HELP " ++ fullName m ++ " " ++ m.help ++ ".\n" ++ "# TYPE " ++ fullName m ++ " gauge\n" ++
      (match m.unit with | some u => "# UNIT " ++ fullName m ++ " " ++ u ++ "\n" | none => "") ++
      String.join (m.samples.map (renderSample (fullName m))) := by
  exact ⟨rfl, fun m => rfl⟩

end Statime.C19
