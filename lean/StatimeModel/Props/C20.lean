import StatimeModel.Lemmas.ExporterL
import StatimeModel.Generated.ExporterConsts
/-
C20 — The metrics exporter cannot be wedged by its clients.

About the model of the accept / request loop (Model/Exporter.lean). The tie to
statime-linux/src/metrics/exporter.rs is the `exporter` stream: the real exporter process against
scripted clients and observation-socket behaviours, compared with this model connection by connection,
with process liveness (exit status, CPU use while idle) judged by an independent oracle.

`serve` is structurally recursive over the results of the `read` calls: that Lean accepts it is the
statement that a connection costs at most one loop iteration per read result — there is no state in
which the exporter goes round without consuming one.
-/
namespace Statime.C20
open Statime.Exporter

/-- the exporter is left waiting only if every read so far returned data -/
theorem waiting_only_on_silent_client (rds : List Rd) (o : Obs) :
    ∀ acc, serve acc rds o = .waiting → ∀ r ∈ rds, ∃ bs, r = Rd.data bs ∧ bs ≠ [] := by
  induction rds with
  | nil => intro _ _ _ hr; cases hr
  | cons r rest ih =>
    intro acc h x hx
    obtain ⟨hr, acc', h'⟩ := serve_cons_waiting h
    rcases List.mem_cons.mp hx with rfl | hx
    · exact hr
    · exact ih acc' h' x hx

/-- if any read reports the end of the stream or an error — the client has gone away — the connection is over -/
theorem client_that_goes_away_is_finished (rds : List Rd) (o : Obs) :
    ∀ acc, (Rd.eof ∈ rds ∨ Rd.err ∈ rds) → serve acc rds o ≠ .waiting := by
  intro acc h hw
  have hd := waiting_only_on_silent_client rds o acc hw
  rcases h with h | h
  · obtain ⟨_, e, _⟩ := hd _ h
    cases e
  · obtain ⟨_, e, _⟩ := hd _ h
    cases e

/-- **Split writes do not matter.** However the network cuts a request into reads, the connection gets
the verdict of the whole stream: the response for a `GET` whose end of headers lies within the first
2048 octets, nothing otherwise. (`chunks`: the non-empty results of the reads, then the client closes.) -/
theorem chunking_does_not_matter (chunks : List (List UInt8)) (o : Obs) :
    ∀ acc, (∀ c ∈ chunks, c ≠ []) → hasTerm acc = false → acc.length < CAP →
      serve acc (chunks.map Rd.data ++ [Rd.eof]) o = verdict (acc ++ chunks.flatten) o :=
  serve_chunks_end chunks o [] (fun _ h => nomatch h)

/-- **A well-formed request is answered**, with the data or with the error status, whatever the
segmentation: a `GET` whose end of headers lies within the buffer gets `respond o`. -/
theorem wellformed_request_is_answered (chunks : List (List UInt8)) (o : Obs)
    (hne : ∀ c ∈ chunks, c ≠ []) (hget : isGet chunks.flatten = true)
    (hterm : hasTerm (chunks.flatten.take CAP) = true) :
    serve [] (chunks.map Rd.data ++ [Rd.eof]) o = respond o := by
  rw [← List.take_append_drop CAP chunks.flatten, isGet_append _ (hasTerm_length hterm)] at hget
  rw [chunking_does_not_matter chunks o [] hne rfl (by decide), List.nil_append, verdict_eq, hterm, hget]; rfl

/-- **Later requests are answered.** After any number of connections whose clients have gone away —
whatever they sent, whatever the observation socket did meanwhile — a well-formed request with a
usable observation document gets its 200. -/
theorem later_request_is_answered (cs : List Conn) (good : List (List UInt8))
    (hgone : ∀ c ∈ cs, Rd.eof ∈ c.1 ∨ Rd.err ∈ c.1)
    (hne : ∀ c ∈ good, c ≠ []) (hget : isGet good.flatten = true) (hterm : hasTerm (good.flatten.take CAP) = true) :
    (run (cs ++ [(good.map Rd.data ++ [Rd.eof], Obs.usable)])).getLast? = some Outcome.ok200 ∧
    Outcome.waiting ∉ run (cs ++ [(good.map Rd.data ++ [Rd.eof], Obs.usable)]) := by
  have hfin : ∀ c ∈ cs, serve [] c.1 c.2 ≠ .waiting := fun c hc =>
    client_that_goes_away_is_finished c.1 c.2 [] (hgone c hc)
  have hs : serve [] (good.map Rd.data ++ [Rd.eof]) .usable = .ok200 :=
    wellformed_request_is_answered good .usable hne hget hterm
  have hg : run [(good.map Rd.data ++ [Rd.eof], Obs.usable)] = [.ok200] := by
    rw [run_cons_of_ne_waiting _ (hs ▸ fun h => nomatch h), hs]; rfl
  rw [run_append_of_finished cs _ hfin, hg]
  refine ⟨List.getLast?_concat .., fun hm => ?_⟩
  rcases List.mem_append.1 hm with hm | hm
  · obtain ⟨c, hc, e⟩ := List.mem_map.1 hm
    exact hfin c hc e
  · cases hm with | tail _ h => cases h

/-- an unusable observation socket (refused, closed early, truncated or invalid document) costs the
client an error status, never the exporter -/
theorem unusable_observation_gives_500 (chunks : List (List UInt8))
    (hne : ∀ c ∈ chunks, c ≠ []) (hget : isGet chunks.flatten = true) (hterm : hasTerm (chunks.flatten.take CAP) = true) :
    serve [] (chunks.map Rd.data ++ [Rd.eof]) .unusable = .err500 :=
  wellformed_request_is_answered chunks .unusable hne hget hterm

/-! non-vacuity: the harness's request, whole or cut in two, satisfies the hypotheses -/
example : isGet [getRequest].flatten = true ∧ hasTerm ([getRequest].flatten.take CAP) = true := by decide +kernel
example : serve [] [.data (getRequest.take 10), .data (getRequest.drop 10)] .usable = .ok200 := by decide +kernel
example : serve [] [.data (getRequest.take 10), .eof] .usable = .dropped := by decide +kernel

/-! tie to the source: buffer size, end-of-headers marker and verb prefix as extracted from exporter.rs -/
theorem constants_match_source :
    Generated.exporterBufLen = some CAP ∧ Generated.exporterTerminator = some [13, 10, 13, 10] ∧
    Generated.exporterVerb = some [71, 69, 84, 32] := by decide

end Statime.C20
